import GN.Url.PathLemmas

/-!
# Percent escapes stay well formed through `resolvePath`

`WF s`: the decoder accepts `s` as a path.  An escape is `%` and two hex digits, so it cannot straddle a slash: `WF`
goes through `++`, through cutting at a slash and through `strings.Split`, hence through every step of `resolvePath`.
-/

namespace GN.Url.Obj
open GN GN.Url GN.Url.Net GN.Url.Rfc

def WF (s : Bytes) : Prop := unescapeOk .path s = true

theorem wf_nil : WF [] := rfl

theorem wf_cons {c : UInt8} (hc : c ≠ 37) {t : Bytes} : WF (c :: t) ↔ WF t := by
  unfold WF
  rw [unescapeOk_cons hc, (litOk_pctOk_of_not_host rfl rfl c c).1, Bool.true_and]

theorem wf_pct {x y : UInt8} {t : Bytes} : WF (37 :: x :: y :: t) ↔ (isHex x = true ∧ isHex y = true) ∧ WF t := by
  unfold WF
  rw [unescapeOk_pct, (litOk_pctOk_of_not_host rfl rfl x y).2, Bool.and_true, Bool.and_eq_true, Bool.and_eq_true]

theorem wf_cons_slash {t : Bytes} : WF (47 :: t) ↔ WF t := wf_cons (by decide)

theorem wf_append {a b : Bytes} (ha : WF a) (hb : WF b) : WF (a ++ b) := by
  refine unescapeOk_ind (fun a => WF (a ++ b)) hb ?_ ?_ a ha
  · intro x y r h ih
    exact wf_pct.2 ⟨(wf_pct.1 h).1, ih⟩
  · intro c r hc _ ih
    exact (wf_cons hc).2 ih

theorem wf_split {a b : Bytes} (h : WF (a ++ 47 :: b)) : WF a ∧ WF b := by
  have h' := unescape_split (by decide) h
  exact ⟨h'.1, wf_cons_slash.1 h'.2.1⟩

theorem wf_rend {s : Bytes} : ∀ {r : List Bytes}, WF (s ++ rend r) → ∀ l ∈ s :: r, WF l
  | [], h, l, hl => by rw [List.mem_singleton.1 hl]; simpa using h
  | t :: r, h, l, hl => by
    obtain ⟨hs, ht⟩ := wf_split h
    rcases List.mem_cons.1 hl with rfl | hl
    · exact hs
    · exact wf_rend ht l hl

theorem wf_splitOn {s : Bytes} (h : WF s) : ∀ l ∈ splitOn 47 s, WF l := by
  obtain ⟨a, r, ha, hr, rfl⟩ := rooted_segs s
  rw [splitOn_seg ha hr]
  exact wf_rend h

theorem wf_take_last {t : Bytes} {i : Nat} (h : lastIndexByte t 47 = some i) (hw : WF t) :
    WF (t.take i) ∧ WF (t.take (i + 1)) := by
  rcases last_occurrence t 47 with hn | ⟨a, b, rfl, hb⟩
  · rw [lastIndexByte_eq_none hn] at h; cases h
  · rw [lastIndexByte_append hb] at h; cases h
    have ha := (wf_split hw).1
    have e : (a ++ 47 :: b).take (a.length + 1) = a ++ [47] := List.take_length_add_append 1
    rw [List.take_left' rfl, e]
    exact ⟨ha, wf_append ha rfl⟩

/-- the invariant of the loop of `resolvePath` -/
def RJ (p : Bytes × Bool) : Prop := WF p.1 ∧ ∃ t, p.1 = 47 :: t

theorem resolveStep_rj {p : Bytes × Bool} {elem : Bytes} (hp : RJ p) (he : WF elem) : RJ (resolveStep p elem) := by
  obtain ⟨dst, b⟩ := p
  obtain ⟨hw, t, rfl⟩ : WF dst ∧ ∃ t, dst = 47 :: t := hp
  by_cases h1 : elem = [46]
  · rw [h1, resolveStep_dot]; exact ⟨hw, t, rfl⟩
  by_cases h2 : elem = [46, 46]
  · rw [h2, resolveStep_dotdot]
    split
    · exact ⟨rfl, [], rfl⟩
    · next idx hidx => exact ⟨wf_cons_slash.2 (wf_take_last hidx (wf_cons_slash.1 hw)).1, _, rfl⟩
  · rw [resolveStep_other h1 h2]
    cases b
    · exact ⟨wf_append (wf_append hw rfl) he, t ++ [47] ++ elem, by simp⟩
    · exact ⟨wf_append hw he, t ++ elem, rfl⟩

theorem finish_rj {d : Bytes} (hd : RJ (d, false)) : WF (finish d) ∧ hasPrefix (finish d) [47] = true := by
  obtain ⟨hw, t, rfl⟩ : WF d ∧ ∃ t, d = 47 :: t := hd
  unfold finish
  split
  · next hc =>
    rcases t with _ | ⟨x, t⟩
    · simp at hc
    · obtain rfl : x = 47 := by simpa using hc
      exact ⟨wf_cons_slash.1 hw, rfl⟩
  · exact ⟨hw, rfl⟩

/-- (`r` names the result, so that the definitional equation `resolvePath_eq`, with its `let`, can be handed in as `e`) -/
theorem resolveFull_wf {full r : Bytes} (h : WF full) (e : r = if full == [] then [] else resolveFull full) :
    WF r ∧ (r = [] ∨ hasPrefix r [47] = true) := by
  subst e
  split
  · exact ⟨wf_nil, Or.inl rfl⟩
  obtain ⟨hw, t, et⟩ : RJ ((splitOn 47 full).foldl resolveStep ([47], true)) :=
    List.foldlRecOn _ _ ⟨rfl, [], rfl⟩ fun _ hp e he => resolveStep_rj hp (wf_splitOn h e he)
  refine (finish_rj ?_).imp_right Or.inr
  split
  · exact ⟨wf_append hw rfl, t ++ [47], by rw [et]; rfl⟩
  · exact ⟨hw, t, et⟩

theorem resolvePath_wf {base ref : Bytes} (hb : WF base) (hr : WF ref) :
    WF (resolvePath base ref) ∧ (resolvePath base ref = [] ∨ hasPrefix (resolvePath base ref) [47] = true) := by
  refine resolveFull_wf ?_ (resolvePath_eq base ref)
  split
  · exact hb
  split
  · refine wf_append ?_ hr
    split
    · next i hi => exact (wf_take_last hi hb).2
    · exact wf_nil
  · exact hr

theorem escapedPath_wf (u : URL) : WF u.escapedPath := by
  unfold URL.escapedPath
  split
  · next h =>
    simp only [Bool.and_eq_true, beq_iff_eq] at h
    exact (unescape_some h.2).1
  · split
    · rfl
    · exact (unescape_escape .path (Or.inl rfl) u.path).1

theorem setPath_wf (u0 : URL) {x : Bytes} (h : WF x) : ∃ p, setPath u0 x = some p := by
  rw [setPath_eq, Net.unescape, if_pos (show unescapeOk .path x = true from h)]
  exact ⟨_, rfl⟩

end GN.Url.Obj
