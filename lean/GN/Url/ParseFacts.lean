import GN.Url.ReparseLayout
import GN.Url.NetLemmas
import GN.Url.IdnaLemmas

/-!
# What `parse`, `Parse` and `ParseRequestURI` guarantee about the URL they return

`Parsed raw p` collects what holds of a URL `p` parsed from `raw`: scheme syntax, opaque part, stored raw path.  It is read
off the two halves of `parse`, whose results `getScheme_some` (ReparseLayout) and `parseTailV_cases` (NetLemmas) enumerate.
-/

namespace GN.Url.Obj
open GN GN.Url GN.Url.Net

theorem validScheme_lower {s : Bytes} (h : validScheme s = true) : validScheme (toLowerAscii s) = true := by
  cases s with
  | nil => cases h
  | cons c t =>
    rw [validScheme, Bool.and_eq_true] at h
    exact Bool.and_eq_true_iff.2 ⟨lowerByte_class (fun _ hc => hc) h.1, toLowerAscii_all isAlpha_schemeTail h.2⟩

structure Parsed (raw : Bytes) (p : URL) : Prop where
  scheme : p.scheme = [] ∨ validScheme p.scheme = true
  opaq : p.opaq ≠ [] → (35 : UInt8) ∉ raw → OpaqOK p.opaq
  alone : p.opaq ≠ [] → p.host = [] ∧ p.path = [] ∧ p.scheme ≠ []
  rawNil : p.path = [] → p.rawPath = []
  rawSlash : p.scheme ≠ [] → p.rawPath = [] ∨ hasPrefix p.rawPath [47] = true

/-- `rest` is what `parse` cut out of `raw` between scheme and query -/
theorem parseTailV_parsed {v : Bool} {raw scheme rest rq : Bytes} {fq : Bool} {p : URL}
    (h : parseTailV v scheme rest rq fq = some p)
    (hs : scheme = [] ∨ validScheme scheme = true) (hsub : ∀ c ∈ rest, c ∈ raw) (hq : (63 : UInt8) ∉ rest)
    (hctl : containsCTL raw = false) : Parsed raw p := by
  have path : ∀ (u : URL) (x : Bytes), u.scheme = scheme → u.opaq = [] →
      (scheme ≠ [] → x = [] ∨ hasPrefix x [47] = true) → setPath u x = some p → Parsed raw p := by
    intro u x e1 e2 hx hp
    obtain ⟨hr, hn⟩ := setPath_rawPath hp
    obtain ⟨_, _, e⟩ := setPath_some hp
    subst e
    refine ⟨by rw [show _ = u.scheme from rfl, e1]; exact hs, fun ho => absurd e2 ho, fun ho => absurd e2 ho, hn,
      fun hne => ?_⟩
    rcases hr with e | e
    · exact Or.inl e
    · rw [e]; exact hx (by rw [← e1]; exact hne)
  rcases parseTailV_cases h with ⟨e, h1, h2⟩ | ⟨user, host, a, x, ha, hx, hp⟩ | ⟨oh, hx, hp⟩
  · subst e
    exact ⟨hs, fun _ h35 => ⟨h1, hq, fun hm => h35 (hsub _ hm), noCTL_sub hsub hctl⟩, fun _ => ⟨rfl, rfl, h2⟩,
      fun _ => rfl, fun _ => Or.inl rfl⟩
  · exact path _ x rfl rfl (fun _ => hx) hp
  · exact path _ rest rfl rfl (fun hne => Or.inr (hx hne)) hp

theorem parse_parsed {raw : Bytes} {v : Bool} {p : URL} (h : Net.parse raw v = some p) : Parsed raw p := by
  obtain ⟨hctl, hc⟩ := parse_some h
  rcases hc with e | ⟨scheme0, rest0, hgs, hc⟩
  · subst e
    exact ⟨Or.inl rfl, fun ho => absurd rfl ho, fun ho => absurd rfl ho, fun hp => (by cases hp), fun hs => absurd rfl hs⟩
  · obtain ⟨hsv, hsub⟩ : (toLowerAscii scheme0 = [] ∨ validScheme (toLowerAscii scheme0) = true) ∧
        ∀ c ∈ rest0, c ∈ raw := by
      rcases getScheme_some hgs with ⟨rfl, rfl⟩ | ⟨hv, rfl⟩
      · exact ⟨Or.inl rfl, fun _ hc => hc⟩
      · exact ⟨Or.inr (validScheme_lower hv), fun c hc => by simp [hc]⟩
    exact parseTailV_parsed hc hsv (fun c hc => hsub c ((cut_fst_sub rest0 63).1 c hc)) (cut_fst_sub rest0 63).2 hctl

/-- `Parse` has cut the fragment off first, so an opaque part has no `#` either -/
theorem Parse_parsed {raw : Bytes} {p : URL} (h : Net.Parse raw = some p) :
    ∃ pre, (35 : UInt8) ∉ pre ∧ Parsed pre p := by
  obtain ⟨url, hu, _, _, rfl⟩ := Parse_some h
  have hp := parse_parsed hu
  exact ⟨_, (cut_fst_sub raw 35).2, { hp with }⟩

theorem parse_colon_none (t : Bytes) (v : Bool) : Net.parse (58 :: t) v = none := by
  have hg : getScheme (58 :: t) = none := rfl
  have h42 : ((58 :: t : Bytes) == [42]) = false := by simp
  rw [parse_eq, hg, h42]
  simp

theorem parse_scheme_valid {s rest : Bytes} {v : Bool} {p : URL} (h : Net.parse (s ++ 58 :: rest) v = some p)
    (hs : p.scheme = s) : validScheme s = true := by
  refine hs ▸ (parse_parsed h).scheme.resolve_left fun e => ?_
  rw [← hs, e, List.nil_append, parse_colon_none] at h
  cases h

end GN.Url.Obj
