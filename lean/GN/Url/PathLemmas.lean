import GN.Url.PathSpec
import GN.Url.ObjLemmas

/-!
# C14: the three path algorithms of the code compute one reference normaliser

Common middle: the stack-based reference normaliser `normSegs`.  On a path `init ++ [l]` (`l` the last segment, possibly
empty) it is `fin (cleanStack init []) l`, where `cleanStack` folds `normStep` over the non-empty segments.  Each of §5.2.4
`removeDotsLoop`, `path.Clean` (+ the trailing-slash repair of `cleanPath`) and the element loop of net/url's `resolvePath`
computes the rendering of that list: what one segment does to the loop's buffer is written as a function on bytes
(`outStep`, `cleanStep`, `resolveStep`), the loop is shown to apply it segment by segment, and on the rendering of a stack
it is `normStep`.  `path.Clean` skips empty segments as `normSegs` does, so `cleanPath` agrees with `normSegs` on every
rooted path; the other two keep them, and agree on the paths of the grammar, whose inner segments are not empty.
-/

namespace GN.Url.Rfc
open GN GN.Url GN.Url.Net

/-- a slash before each segment: `render` on a non-empty list (`render_eq_rend`) and, unlike it, additive (`rend_append`) -/
def rend : List Bytes → Bytes
  | [] => []
  | s :: rest => 47 :: s ++ rend rest

@[simp] theorem rend_nil : rend [] = [] := rfl
@[simp] theorem rend_cons (s : Bytes) (r : List Bytes) : rend (s :: r) = 47 :: (s ++ rend r) := rfl

theorem rend_append (a b : List Bytes) : rend (a ++ b) = rend a ++ rend b := by
  induction a with
  | nil => rfl
  | cons s a ih => simp [ih]

theorem joinSegs_cons (s : Bytes) (r : List Bytes) : joinSegs (s :: r) = s ++ rend r := by
  induction r generalizing s with
  | nil => simp [joinSegs]
  | cons t r ih =>
    rw [joinSegs, ih]
    · simp
    · simp

theorem render_eq_rend {segs : List Bytes} (h : segs ≠ []) : render segs = rend segs := by
  cases segs with
  | nil => exact absurd rfl h
  | cons s r => simp [render, joinSegs_cons]

theorem render_ne_nil (segs : List Bytes) : render segs ≠ [] := List.cons_ne_nil _ _

theorem rend_concat (a : List Bytes) (l : Bytes) : rend (a ++ [l]) = rend a ++ 47 :: l := by
  simp [rend_append]

section Sep
-- the separator is a variable: `simp` on a byte numeral is several times slower
variable {α : Type} [DecidableEq α] {c : α} {t : List α}

theorem beq_sep (ht : c ∉ t) (s y : List α) : (s ++ c :: y == t) = false := by
  rw [beq_eq_false_iff_ne]
  exact fun h => ht (h ▸ by simp)

theorem head_sep (c : α) (x : List α) : (x == [] || x.head? == some c) = (x.takeWhile (· != c)).isEmpty := by
  cases x with
  | nil => rfl
  | cons d x => by_cases h : d = c <;> simp [h]

end Sep

theorem takeWhile_seg {s : Bytes} (h : (47 : UInt8) ∉ s) (r : List Bytes) :
    (s ++ rend r).takeWhile (· != 47) = s := by
  rw [List.takeWhile_append_of_pos (fun _ ha => bne_iff_ne.2 (ne_of_mem_of_not_mem ha h))]
  cases r <;> simp

theorem dropWhile_seg {s : Bytes} (h : (47 : UInt8) ∉ s) (r : List Bytes) :
    (s ++ rend r).dropWhile (· != 47) = rend r := by
  rw [List.dropWhile_append_of_pos (fun _ ha => bne_iff_ne.2 (ne_of_mem_of_not_mem ha h))]
  cases r <;> simp

theorem isPrefixOf_seg {s : Bytes} (hs : (47 : UInt8) ∉ s) (t : Bytes) (ht : (47 : UInt8) ∉ t) (r : List Bytes) :
    (t ++ [47]).isPrefixOf (s ++ rend r) = true ↔ s = t ∧ r ≠ [] := by
  rw [List.isPrefixOf_iff_prefix]
  constructor
  · rintro ⟨z, hz⟩
    -- both sides begin with a segment, `t` and `s`
    have e := congrArg (List.takeWhile (· != 47)) hz
    rw [takeWhile_seg hs r, show t ++ [47] ++ z = t ++ rend [z] by simp, takeWhile_seg ht] at e
    subst e
    refine ⟨rfl, ?_⟩
    rintro rfl
    simp at hz
  · rintro ⟨rfl, hr⟩
    obtain ⟨u, r, rfl⟩ := List.exists_cons_of_ne_nil hr
    exact ⟨u ++ rend r, by simp⟩

theorem beq_seg {s : Bytes} (t : Bytes) (ht : (47 : UInt8) ∉ t) (r : List Bytes) :
    (s ++ rend r == t) = true ↔ s = t ∧ r = [] := by
  cases r with
  | nil => simp
  | cons u r => simp [beq_sep ht]

/-- what the stack holds -/
def Good (st : List Bytes) : Prop := ∀ s ∈ st, s ≠ [] ∧ (47 : UInt8) ∉ s ∧ s ≠ [46] ∧ s ≠ [46, 46]

def Inner (l : List Bytes) : Prop := ∀ s ∈ l, s ≠ [] ∧ (47 : UInt8) ∉ s

theorem good_nil : Good [] := fun _ h => nomatch h

theorem Good.inner {st : List Bytes} (h : Good st) : Inner st := fun s hs => ⟨(h s hs).1, (h s hs).2.1⟩

theorem normStep_dot (st : List Bytes) : normStep st [46] = st := rfl
theorem normStep_dotdot (st : List Bytes) : normStep st [46, 46] = st.dropLast := rfl
theorem normStep_other {st : List Bytes} {s : Bytes} (h1 : s ≠ [46]) (h2 : s ≠ [46, 46]) :
    normStep st s = st ++ [s] := by
  simp [normStep, h1, h2]

theorem isDot_false_iff {s : Bytes} : isDot s = false ↔ s ≠ [46] ∧ s ≠ [46, 46] := by simp [isDot]

theorem Good.step {st : List Bytes} (h : Good st) {s : Bytes} (h0 : s ≠ []) (h47 : (47 : UInt8) ∉ s) :
    Good (normStep st s) := by
  by_cases h1 : s = [46]
  · rw [h1, normStep_dot]; exact h
  by_cases h2 : s = [46, 46]
  · rw [h2, normStep_dotdot]; exact fun t ht => h t (List.dropLast_subset _ ht)
  rw [normStep_other h1 h2]
  exact List.forall_mem_append.2 ⟨h, List.forall_mem_singleton.2 ⟨h0, h47, h1, h2⟩⟩

theorem foldl_good {l : List Bytes} (hl : Good l) (st : List Bytes) : l.foldl normStep st = st ++ l := by
  induction l generalizing st with
  | nil => simp
  | cons s l ih =>
    have hs := hl s (by simp)
    simp only [List.foldl_cons]
    rw [normStep_other hs.2.2.1 hs.2.2.2, ih (fun t ht => hl t (List.mem_cons_of_mem _ ht))]
    simp

theorem segsOK_split {segs : List Bytes} (h : SegsOK segs) :
    ∃ init l, segs = init ++ [l] ∧ Inner init ∧ (47 : UInt8) ∉ l := by
  obtain ⟨hne, h47, hmid⟩ := h
  obtain ⟨init, l, rfl⟩ := (List.eq_nil_or_concat segs).resolve_left hne
  rw [List.concat_eq_append] at h47 hmid ⊢
  rw [List.dropLast_concat] at hmid
  exact ⟨init, l, rfl, fun s hs => ⟨hmid s hs, h47 s (List.mem_append_left _ hs)⟩, h47 l (by simp)⟩

theorem segsOK_append {init segs : List Bytes} (hi : Inner init) (h : SegsOK segs) : SegsOK (init ++ segs) :=
  ⟨by simp [h.1], List.forall_mem_append.2 ⟨fun s hs => (hi s hs).2, h.2.1⟩,
    by rw [List.dropLast_append_of_ne_nil h.1]; exact List.forall_mem_append.2 ⟨fun s hs => (hi s hs).1, h.2.2⟩⟩

/-- the stack after the segments `r`, empty ones skipped: what `normSegs` folds and where `path.Clean` ends -/
def cleanStack (r : List Bytes) (st : List Bytes) : List Bytes := (r.filter (· != [])).foldl normStep st

theorem cleanStack_good {r : List Bytes} (hr : ∀ s ∈ r, (47 : UInt8) ∉ s) {st : List Bytes} (hg : Good st) :
    Good (cleanStack r st) :=
  List.foldlRecOn _ normStep hg fun _ hg s hs =>
    hg.step (by simpa using (List.mem_filter.1 hs).2) (hr s (List.mem_filter.1 hs).1)

theorem cleanStack_cons (s : Bytes) (r st : List Bytes) :
    cleanStack (s :: r) st = cleanStack r (if s = [] then st else normStep st s) := by
  unfold cleanStack
  by_cases h : s = [] <;> simp [h]

theorem cleanStack_inner {init : List Bytes} (hi : Inner init) (st : List Bytes) :
    cleanStack init st = init.foldl normStep st := by
  rw [cleanStack, List.filter_eq_self.2 fun s hs => bne_iff_ne.2 (hi s hs).1]

theorem cleanStack_snoc (init : List Bytes) (l : Bytes) (st : List Bytes) :
    cleanStack (init ++ [l]) st = cleanStack [l] (cleanStack init st) := by
  unfold cleanStack
  rw [List.filter_append, List.foldl_append]

/-- the segment list after the last segment `l`: it is pushed or obeyed like the others (an empty one marks a
directory), and a dot segment leaves the directory mark behind -/
def fin (st : List Bytes) (l : Bytes) : List Bytes := normStep st l ++ (if isDot l then [[]] else [])

theorem fin_file {st : List Bytes} {l : Bytes} (h : isDot l = false) : fin st l = st ++ [l] := by
  simp [fin, h, normStep_other (isDot_false_iff.1 h).1 (isDot_false_iff.1 h).2]

/-- the same, the way `normSegs` and `cleanPath` go about it -/
theorem fin_eq (st : List Bytes) (l : Bytes) :
    fin st l = if (l == [] || isDot l) = true then cleanStack [l] st ++ [[]] else st ++ [l] := by
  by_cases h0 : l = []
  · subst h0; simp [fin_file, isDot, cleanStack]
  cases hd : isDot l
  · simp [h0, fin_file hd]
  · simp [h0, fin, hd, cleanStack]

theorem dir_iff {l : Bytes} : (l == [] || isDot l) = true ↔ l = [] ∨ l = [46] ∨ l = [46, 46] := by simp [isDot]

theorem not_dir {l : Bytes} (h : ¬(l == [] || isDot l) = true) : l ≠ [] ∧ l ≠ [46] ∧ l ≠ [46, 46] := by
  simpa [not_or] using mt dir_iff.2 h

theorem normSegs_concat (init : List Bytes) (l : Bytes) :
    normSegs (init ++ [l]) = fin (cleanStack init []) l := by
  have e : normSegs (init ++ [l]) = if (l == [] || isDot l) = true then cleanStack (init ++ [l]) [] ++ [[]]
      else if cleanStack (init ++ [l]) [] == [] then [[]] else cleanStack (init ++ [l]) [] := by
    rw [normSegs, List.getLast?_concat]; rfl
  rw [e, fin_eq, cleanStack_snoc]
  by_cases h : (l == [] || isDot l) = true
  · rw [if_pos h, if_pos h]
  · obtain ⟨h0, h1, h2⟩ := not_dir h
    rw [if_neg h, if_neg h, cleanStack_cons, if_neg h0, normStep_other h1 h2]
    exact if_neg (by simp [cleanStack])

theorem render_normSegs (init : List Bytes) (l : Bytes) :
    render (normSegs (init ++ [l])) = rend (fin (cleanStack init []) l) := by
  rw [normSegs_concat, render_eq_rend]
  rw [fin_eq]
  split <;> simp

/-- the lists the normaliser returns (`normSegs_nf`) -/
def NF (segs : List Bytes) : Prop := ∃ st l, segs = st ++ [l] ∧ Good st ∧ (47 : UInt8) ∉ l ∧ isDot l = false

theorem fin_nf {st : List Bytes} (h : Good st) {l : Bytes} (hl : (47 : UInt8) ∉ l) : NF (fin st l) := by
  rw [fin_eq]
  split
  · exact ⟨_, [], rfl, cleanStack_good (by simpa using hl) h, List.not_mem_nil, rfl⟩
  · next hd => exact ⟨st, l, rfl, h, hl, isDot_false_iff.2 (not_dir hd).2⟩

theorem NF.fixed {segs : List Bytes} (h : NF segs) : SegsOK segs ∧ normSegs segs = segs := by
  obtain ⟨st, l, rfl, hg, hl, hd⟩ := h
  refine ⟨segsOK_append hg.inner ⟨List.cons_ne_nil _ _, List.forall_mem_singleton.2 hl, fun _ h => nomatch h⟩, ?_⟩
  rw [normSegs_concat, cleanStack_inner hg.inner, foldl_good hg, List.nil_append, fin_file hd]

theorem normSegs_nf {segs : List Bytes} (h47 : ∀ s ∈ segs, (47 : UInt8) ∉ s) : NF (normSegs segs) := by
  rcases List.eq_nil_or_concat segs with rfl | ⟨init, l, rfl⟩
  · exact ⟨[], [], rfl, good_nil, List.not_mem_nil, rfl⟩
  rw [List.concat_eq_append] at h47 ⊢
  rw [normSegs_concat]
  exact fin_nf (cleanStack_good (fun s hs => h47 s (List.mem_append_left _ hs)) good_nil) (h47 l (by simp))

theorem good_getLast_ne {st : List Bytes} (h : Good st) : st.getLast? ≠ some [] := by
  intro hl
  have := List.mem_of_getLast? hl
  exact (h _ this).1 rfl

theorem normSegs_dir_iff {segs : List Bytes} (hne : segs ≠ []) :
    (normSegs segs).getLast? = some [] ↔
      segs.getLast? = some [] ∨ segs.getLast? = some [46] ∨ segs.getLast? = some [46, 46] := by
  obtain ⟨init, l, rfl⟩ := (List.eq_nil_or_concat segs).resolve_left hne
  rw [List.concat_eq_append, normSegs_concat, fin_eq]
  simp only [List.getLast?_concat, Option.some.injEq, ← dir_iff]
  split
  · next hd => rw [List.getLast?_concat]; exact ⟨fun _ => hd, fun _ => rfl⟩
  · next hd =>
    rw [List.getLast?_concat, Option.some.injEq]
    exact ⟨fun h => absurd h (not_dir hd).1, fun h => absurd h hd⟩

theorem dropLastSegment_rend {st : List Bytes} (h : Inner st) : dropLastSegment (rend st) = rend st.dropLast := by
  unfold dropLastSegment
  rcases List.eq_nil_or_concat st with rfl | ⟨i, l, rfl⟩
  · simp [lastIndexByte_eq_none]
  · simp [rend_concat, lastIndexByte_append (h l (by simp)).2]

def outStep (out s : Bytes) : Bytes :=
  if s = [46] then out else if s = [46, 46] then dropLastSegment out else out ++ 47 :: s

theorem outStep_rend {st : List Bytes} (h : Inner st) (s : Bytes) : outStep (rend st) s = rend (normStep st s) := by
  unfold outStep
  by_cases h1 : s = [46]
  · rw [if_pos h1, h1, normStep_dot]
  by_cases h2 : s = [46, 46]
  · rw [if_neg h1, if_pos h2, h2, normStep_dotdot, dropLastSegment_rend h]
  · rw [if_neg h1, if_neg h2, normStep_other h1 h2, rend_concat]

theorem loop_nil (f : Nat) (out : Bytes) : removeDotsLoop f [] out = out := by
  cases f <;> simp [removeDotsLoop]

/-- after a dot segment that was the last one a slash is put back: steps B and C of the RFC, second halves -/
theorem removeDotsLoop_seg (f : Nat) {s : Bytes} (hs : (47 : UInt8) ∉ s) (r : List Bytes) (out : Bytes) :
    removeDotsLoop (f + 1) (47 :: (s ++ rend r)) out =
      removeDotsLoop f (if isDot s = true ∧ r = [] then [47] else rend r) (outStep out s) := by
  by_cases h1 : s = [46]
  · subst h1; cases r <;> rfl
  by_cases h2 : s = [46, 46]
  · subst h2; cases r <;> rfl
  -- any other segment fails the tests of steps A to D
  have p1 : hasPrefix (47 :: (s ++ rend r)) [47, 46, 47] = true ↔ s = [46] ∧ r ≠ [] :=
    isPrefixOf_seg hs [46] (by decide) r
  have p2 : hasPrefix (47 :: (s ++ rend r)) [47, 46, 46, 47] = true ↔ s = [46, 46] ∧ r ≠ [] :=
    isPrefixOf_seg hs [46, 46] (by decide) r
  have e1 : (47 :: (s ++ rend r) == [47, 46]) = true ↔ s = [46] ∧ r = [] := beq_seg [46] (by decide) r
  have e2 : (47 :: (s ++ rend r) == [47, 46, 46]) = true ↔ s = [46, 46] ∧ r = [] :=
    beq_seg [46, 46] (by decide) r
  have q1 : hasPrefix (47 :: (s ++ rend r)) [46, 46, 47] = false := rfl
  have q2 : hasPrefix (47 :: (s ++ rend r)) [46, 47] = false := rfl
  have q3 : (47 :: (s ++ rend r) == [46] || 47 :: (s ++ rend r) == [46, 46]) = false := rfl
  rw [removeDotsLoop.eq_3]
  simp only [q1, q2, q3, p1, p2, e1, e2, h1, h2, false_and, Bool.false_eq_true, if_false]
  simp [h1, h2, outStep, isDot, takeWhile_seg hs]

/-- The output buffer holds a stack: one pass per inner segment applies `normStep`, and the last segment ends as `fin`
says.  The fuel is one pass per segment and one more for the slash that is put back after a final dot segment. -/
theorem loop_rend {l : Bytes} (hl : (47 : UInt8) ∉ l) : ∀ {init : List Bytes}, Inner init →
    ∀ {st : List Bytes}, Good st → ∀ fuel, (init ++ [l]).length < fuel →
      removeDotsLoop fuel (rend (init ++ [l])) (rend st) = rend (fin (init.foldl normStep st) l)
  | [], _, st, hg, f + 2, _ => by
    have h := removeDotsLoop_seg (f + 1) hl [] (rend st)
    rw [rend_nil, List.append_nil, outStep_rend hg.inner] at h
    rw [List.nil_append, rend_cons, rend_nil, List.append_nil, h, List.foldl_nil, fin]
    cases isDot l
    · simp [loop_nil]
    · have := removeDotsLoop_seg f (s := []) (by simp) [] (rend (normStep st l))
      simp [outStep, isDot, loop_nil] at this
      simp [this, rend_append]
  | s :: init, hi, st, hg, f + 1, hf => by
    obtain ⟨⟨h0, hs⟩, hi⟩ := List.forall_mem_cons.1 hi
    rw [List.cons_append, rend_cons, removeDotsLoop_seg f hs, if_neg (by simp), outStep_rend hg.inner, List.foldl_cons]
    exact loop_rend hl hi (hg.step h0 hs) f (by simpa using hf)

theorem rend_length_ge (r : List Bytes) : r.length ≤ (rend r).length := by
  induction r with
  | nil => exact Nat.le_refl _
  | cons s r ih => simp; omega

/-- the output buffer of a rooted `path.Clean` holding a stack -/
def cout (st : List Bytes) : Bytes := if st = [] then [47] else rend st

theorem cout_nil : cout [] = [47] := rfl
theorem cout_ne {st : List Bytes} (h : st ≠ []) : cout st = rend st := if_neg h

theorem rend_length_ge_two {st : List Bytes} (hg : Inner st) (h : st ≠ []) : 2 ≤ (rend st).length := by
  cases st with
  | nil => exact absurd rfl h
  | cons s r =>
    have := (hg s (by simp)).1
    cases s with
    | nil => exact absurd rfl this
    | cons c s => simp <;> omega

theorem cout_ne_nil (st : List Bytes) : cout st ≠ [] := by
  cases st <;> simp [cout]

theorem cleanLoop_nil (f : Nat) (out : Bytes) (dd : Nat) : cleanLoop true f [] out dd = out := by
  cases f <;> simp [cleanLoop]

theorem clean_slash (f : Nat) (inp out : Bytes) (dd : Nat) :
    cleanLoop true (f + 1) (47 :: inp) out dd = cleanLoop true f inp out dd := rfl

def cleanStep (dd : Nat) (out s : Bytes) : Bytes :=
  if s = [46] then out
  else if s = [46, 46] then (if out.length > dd then out.take (cleanBack out dd (out.length - 1)) else out)
  else (if out.length ≠ 1 then out ++ [47] else out) ++ s

theorem cleanLoop_seg (f : Nat) {s : Bytes} (h0 : s ≠ []) (hs : (47 : UInt8) ∉ s) (r : List Bytes)
    (out : Bytes) (dd : Nat) :
    cleanLoop true (f + 1) (s ++ rend r) out dd = cleanLoop true f (rend r) (cleanStep dd out s) dd := by
  rcases s with _ | ⟨c, s⟩
  · exact absurd rfl h0
  obtain ⟨hc, hs'⟩ := List.ne_and_not_mem_of_not_mem_cons hs
  have htw := takeWhile_seg hs r
  have hdw := dropWhile_seg hs r
  have c1 : (c == 47) = false := beq_eq_false_iff_ne.2 hc.symm
  have e := takeWhile_seg hs' r
  -- the loop's two lookahead tests ("`.`, then the end or a slash", "`..`, then the end or a slash") ask whether the
  -- segment is `.` resp. `..`
  have c2 : (c == 46 && (s ++ rend r == [] || (s ++ rend r).head? == some 47)) = (c :: s == [46]) := by
    rw [head_sep, e]; cases s <;> simp
  have c3 : (c == 46 && (s ++ rend r).head? == some 46 &&
      ((s ++ rend r).tail == [] || (s ++ rend r).tail.head? == some 47)) = (c :: s == [46, 46]) := by
    cases s with
    | nil => cases r <;> simp
    | cons d s =>
      rw [List.cons_append, List.tail_cons, head_sep, takeWhile_seg (List.ne_and_not_mem_of_not_mem_cons hs').2]
      cases s <;> simp
  rw [List.cons_append] at htw hdw ⊢
  rw [cleanLoop.eq_3]
  simp only [c1, c2, c3, htw, hdw, Bool.false_eq_true, if_false]
  unfold cleanStep
  by_cases h1 : c :: s = [46]
  · rw [if_pos (beq_iff_eq.2 h1), if_pos h1, (List.cons.inj h1).2, List.nil_append]
  by_cases h2 : c :: s = [46, 46]
  · rw [if_neg (mt beq_iff_eq.1 h1), if_pos (beq_iff_eq.2 h2), if_neg h1, if_pos h2, (List.cons.inj h2).2]
    by_cases hlen : out.length > dd
    · rw [if_pos hlen, if_pos hlen]; rfl
    · rw [if_neg hlen, if_neg hlen, if_neg (by decide)]; rfl
  · rw [if_neg (mt beq_iff_eq.1 h1), if_neg (mt beq_iff_eq.1 h2), if_neg h1, if_neg h2]
    simp

theorem cleanBack_eq (out : Bytes) (dd : Nat) : ∀ w, cleanBack out dd w =
    if w > dd && out.getD w 0 != 47 then cleanBack out dd (w - 1) else w
  | 0 => by simp [cleanBack]
  | _ + 1 => rfl

theorem cleanBack_seg {pre l : Bytes} (h : (47 : UInt8) ∉ l) (dd : Nat) :
    ∀ k, k ≤ l.length → dd ≤ pre.length + k → cleanBack (pre ++ 47 :: l) dd (pre.length + k) = max dd pre.length
  | 0, _, hdd => by
    rw [cleanBack_eq, if_neg (by simp [List.getD_eq_getElem?_getD])]; omega
  | k + 1, hk, hdd => by
    have e : (pre ++ 47 :: l).getD (pre.length + k + 1) 0 = l[k] := by
      simp [List.getD_eq_getElem?_getD, List.getElem?_append_right, Nat.add_assoc, List.getElem?_eq_getElem hk]
    have hne : l[k] ≠ 47 := fun e' => h (e' ▸ List.getElem_mem hk)
    rw [← Nat.add_assoc, cleanBack.eq_2, e]
    by_cases hd : pre.length + k + 1 > dd
    · rw [if_pos (by simp [hd, hne])]
      exact cleanBack_seg h dd k (by omega) (by omega)
    · rw [if_neg (by simp [hd])]; omega

theorem clean_back_take {st : List Bytes} (hg : Inner st) (hne : st ≠ []) :
    (cout st).take (cleanBack (cout st) 1 ((cout st).length - 1)) = cout st.dropLast := by
  rcases List.eq_nil_or_concat st with h' | ⟨i, l, h'⟩
  · exact absurd h' hne
  rw [List.concat_eq_append] at h'
  subst h'
  have hl := hg l (by simp)
  have hi : Inner i := fun s hs => hg s (by simp [hs])
  have hlen : 1 ≤ l.length := List.length_pos_iff.2 hl.1
  have e : (rend i ++ 47 :: l).length - 1 = (rend i).length + l.length := by simp
  rw [cout_ne hne, rend_concat, List.dropLast_concat, e,
    cleanBack_seg hl.2 1 l.length (Nat.le_refl _) (by omega)]
  by_cases hi0 : i = []
  · subst hi0; simp [cout]
  · have := rend_length_ge_two hi hi0
    rw [cout_ne hi0, Nat.max_eq_right (by omega)]; simp

theorem cleanStep_cout {st : List Bytes} (hg : Inner st) {s : Bytes} :
    cleanStep 1 (cout st) s = cout (normStep st s) := by
  unfold cleanStep
  by_cases h1 : s = [46]
  · rw [if_pos h1, h1, normStep_dot]
  by_cases h2 : s = [46, 46]
  · rw [if_neg h1, if_pos h2, h2, normStep_dotdot]
    by_cases hst : st = []
    · subst hst; rfl
    · have := rend_length_ge_two hg hst
      rw [if_pos (by rw [cout_ne hst]; omega), clean_back_take hg hst]
  · rw [if_neg h1, if_neg h2, normStep_other h1 h2, cout_ne (st := st ++ [s]) (by simp), rend_concat]
    by_cases hst : st = []
    · subst hst; rfl
    · have := rend_length_ge_two hg hst
      rw [cout_ne hst, if_pos (by omega)]; simp

/-- The output buffer holds a stack: a slash or an empty segment costs one pass and changes nothing, any other segment is
one pass and `normStep` (`cleanLoop_seg`, `cleanStep_cout`). -/
theorem clean_rend_any : ∀ {r : List Bytes}, (∀ s ∈ r, (47 : UInt8) ∉ s) → ∀ {st : List Bytes}, Good st →
    ∀ fuel, (rend r).length ≤ fuel → cleanLoop true fuel (rend r) (cout st) 1 = cout (cleanStack r st)
  | [], _, _, _, _, _ => cleanLoop_nil _ _ _
  | s :: r, hr, st, hg, f + 1, hf => by
    obtain ⟨hs, hr'⟩ := List.forall_mem_cons.1 hr
    rw [rend_cons, List.length_cons, List.length_append] at hf
    rw [rend_cons, clean_slash, cleanStack_cons]
    by_cases h0 : s = []
    · rw [if_pos h0, h0, List.nil_append]
      exact clean_rend_any hr' hg f (by omega)
    · have : 0 < s.length := List.length_pos_iff.2 h0
      obtain ⟨f, rfl⟩ : ∃ f', f = f' + 1 := ⟨f - 1, by omega⟩
      rw [if_neg h0, cleanLoop_seg f h0 hs, cleanStep_cout hg.inner]
      exact clean_rend_any hr' (hg.step h0 hs) f (by omega)

theorem rooted_segs (y : Bytes) : ∃ s r, (47 : UInt8) ∉ s ∧ (∀ t ∈ r, (47 : UInt8) ∉ t) ∧ y = s ++ rend r := by
  induction y with
  | nil => exact ⟨[], [], List.not_mem_nil, (fun _ h => nomatch h), rfl⟩
  | cons c y ih =>
    obtain ⟨s, r, hs, hr, rfl⟩ := ih
    by_cases hc : c = 47
    · exact ⟨[], s :: r, List.not_mem_nil, List.forall_mem_cons.2 ⟨hs, hr⟩, hc ▸ rfl⟩
    · exact ⟨c :: s, r, List.not_mem_cons_of_ne_of_not_mem (Ne.symm hc) hs, hr, rfl⟩

/-- `clean_rend_any` with the fuel the model gives the loop, one pass per byte -/
theorem pathClean_rend {r : List Bytes} (hr : ∀ s ∈ r, (47 : UInt8) ∉ s) (hne : r ≠ []) :
    pathClean (rend r) = cout (cleanStack r []) := by
  obtain ⟨s, r, rfl⟩ := List.exists_cons_of_ne_nil hne
  have h := clean_rend_any hr good_nil ((rend (s :: r)).length + 1 + 1) (by omega)
  rw [rend_cons, clean_slash, cout_nil] at h
  unfold pathClean
  simp only [rend_cons, List.head?_cons, List.drop_one, List.tail_cons]
  rw [h]
  simp [cout_ne_nil]

theorem suffix_seg_iff {l l' : Bytes} (h : (47 : UInt8) ∉ l) (h' : (47 : UInt8) ∉ l') (pre : Bytes) :
    hasSuffix (pre ++ 47 :: l) (47 :: l') = true ↔ l = l' := by
  rw [hasSuffix_iff]
  constructor
  · rintro ⟨t, ht⟩
    have e1 := congrArg (lastIndexByte · 47) ht
    simp only [lastIndexByte_append h, lastIndexByte_append h'] at e1
    simpa using (List.append_inj ht (Option.some.inj e1)).2
  · rintro rfl
    exact ⟨pre, rfl⟩

/-- the last `if` of `cleanPath`, suffix test `true`: the slash put back after `path.Clean` is one more, empty, segment -/
theorem repair {st : List Bytes} (hg : Inner st) :
    (if (cout st != [47] && true) = true then cout st ++ [47] else cout st) = rend (st ++ [[]]) := by
  by_cases h : st = []
  · subst h; simp [cout]
  · have := rend_length_ge_two hg h
    have hne : rend st ≠ [47] := by
      intro he; rw [he] at this; simp at this
    simp [hne, cout_ne h, rend_append]

/-- the three suffix tests of `cleanPath` -/
theorem dir_suffix {l : Bytes} (hl : (47 : UInt8) ∉ l) (pre : Bytes) :
    (hasSuffix (pre ++ 47 :: l) [47] || hasSuffix (pre ++ 47 :: l) [47, 46] || hasSuffix (pre ++ 47 :: l) [47, 46, 46])
      = (l == [] || isDot l) := by
  rw [Bool.eq_iff_iff]
  simp [suffix_seg_iff hl, isDot, or_assoc]

theorem cleanPath_norm {segs : List Bytes} (hne : segs ≠ []) (h47 : ∀ s ∈ segs, (47 : UInt8) ∉ s) (proto : Bytes) :
    Obj.cleanPath (render segs) proto = render (normSegs segs) := by
  obtain ⟨init, l, rfl⟩ := (List.eq_nil_or_concat segs).resolve_left hne
  rw [List.concat_eq_append] at h47 ⊢
  have hl := h47 l (by simp)
  have hg := cleanStack_good h47 good_nil
  rw [cleanStack_snoc] at hg
  have hp : hasPrefix (render (init ++ [l])) [47] = true := by simp [render, hasPrefix, List.isPrefixOf]
  unfold Obj.cleanPath
  simp only [hp, Bool.not_true, Bool.false_and, Bool.false_eq_true, if_false, bne_iff_ne, ne_eq, render_ne_nil,
    not_false_eq_true, if_true]
  rw [render_normSegs, render_eq_rend (by simp), pathClean_rend h47 (by simp), cleanStack_snoc, rend_concat,
    dir_suffix hl, fin_eq]
  by_cases hd : (l == [] || isDot l) = true
  · rw [hd, if_pos rfl]
    exact repair hg.inner
  · obtain ⟨h0, h1, h2⟩ := not_dir hd
    rw [Bool.not_eq_true] at hd
    rw [hd, Bool.and_false, if_neg (by decide), if_neg (by decide)]
    simp [cleanStack, h0, normStep_other h1 h2, cout_ne]

theorem splitOn_ne_nil (c : UInt8) (s : Bytes) : splitOn c s ≠ [] :=
  splitOn_eq c s ▸ List.splitOn_ne_nil c s

theorem splitOn_seg {s : Bytes} (hs : (47 : UInt8) ∉ s) :
    ∀ {r : List Bytes}, (∀ t ∈ r, (47 : UInt8) ∉ t) → splitOn 47 (s ++ rend r) = s :: r
  | [], _ => by rw [rend_nil, List.append_nil, splitOn_no_sep hs]
  | t :: r, hr => by
    rw [rend_cons, splitOn_append_sep hs,
      splitOn_seg (hr t List.mem_cons_self) fun x hx => hr x (List.mem_cons_of_mem _ hx)]

/-- how the loop state `(dst, first)` holds a stack: with a doubled leading slash (after the empty first element), or
without it (after `..` emptied the buffer and reset `first`) -/
def Rep (st : List Bytes) (p : Bytes × Bool) : Prop :=
  p = (47 :: rend st, false) ∨ (st = [] ∧ p = ([47], true)) ∨ (st ≠ [] ∧ p = (rend st, false))

theorem resolveStep_dot (dst : Bytes) (b : Bool) : resolveStep (dst, b) [46] = (dst, false) := rfl

theorem resolveStep_dotdot (dst : Bytes) (b : Bool) :
    resolveStep (dst, b) [46, 46] =
      match lastIndexByte (dst.drop 1) 47 with
      | none => ([47], true)
      | some idx => (47 :: (dst.drop 1).take idx, b) := by
  simp [resolveStep]
  cases lastIndexByte (List.tail dst) 47 <;> rfl

theorem resolveStep_other {dst : Bytes} {b : Bool} {s : Bytes} (h1 : s ≠ [46]) (h2 : s ≠ [46, 46]) :
    resolveStep (dst, b) s = ((if !b then dst ++ [47] else dst) ++ s, false) := by
  simp [resolveStep, h1, h2]

/-- For `..` the code cuts the buffer at its last slash; that is where the last segment of the stack begins, since a
`Good` segment contains none. -/
theorem rep_step {st : List Bytes} (hg : Good st) {p : Bytes × Bool} (hp : Rep st p) {s : Bytes} :
    Rep (normStep st s) (resolveStep p s) := by
  by_cases h1 : s = [46]
  · subst h1
    rw [normStep_dot]
    rcases hp with rfl | ⟨rfl, rfl⟩ | ⟨hne, rfl⟩
    · exact Or.inl rfl
    · exact Or.inl rfl
    · exact Or.inr (Or.inr ⟨hne, rfl⟩)
  by_cases h2 : s = [46, 46]
  · subst h2
    rw [normStep_dotdot]
    rcases List.eq_nil_or_concat st with h' | ⟨i, l, h'⟩
    · subst h'
      rcases hp with rfl | ⟨_, rfl⟩ | ⟨hne, _⟩
      · exact Or.inr (Or.inl ⟨rfl, rfl⟩)
      · exact Or.inr (Or.inl ⟨rfl, rfl⟩)
      · exact absurd rfl hne
    · simp only [List.concat_eq_append] at h'
      subst h'
      have hl := hg l (by simp)
      rw [List.dropLast_concat]
      rcases hp with rfl | ⟨h, _⟩ | ⟨_, rfl⟩
      · refine Or.inl ?_
        rw [resolveStep_dotdot]
        simp only [List.drop_one, List.tail_cons, rend_concat, lastIndexByte_append hl.2.1]
        simp
      · simp at h
      · rw [resolveStep_dotdot]
        cases i with
        | nil =>
          refine Or.inr (Or.inl ⟨rfl, ?_⟩)
          simp [lastIndexByte_eq_none hl.2.1]
        | cons t i =>
          refine Or.inr (Or.inr ⟨by simp, ?_⟩)
          have : (rend (t :: i ++ [l])).drop 1 = (t ++ rend i) ++ 47 :: l := by
            simp [rend_append]
          rw [this, lastIndexByte_append hl.2.1]
          simp only [List.take_left]
          simp
  · rw [normStep_other h1 h2]
    rcases hp with rfl | ⟨rfl, rfl⟩ | ⟨hne, rfl⟩
    · refine Or.inl ?_
      rw [resolveStep_other h1 h2]; simp [rend_append]
    · refine Or.inr (Or.inr ⟨by simp, ?_⟩)
      rw [resolveStep_other h1 h2]; simp
    · refine Or.inr (Or.inr ⟨by simp, ?_⟩)
      rw [resolveStep_other h1 h2]; simp [rend_append]

theorem rep_foldl {init : List Bytes} (hi : Inner init) :
    ∀ {st : List Bytes}, Good st → ∀ {p : Bytes × Bool}, Rep st p →
      Rep (init.foldl normStep st) (init.foldl resolveStep p) ∧ Good (init.foldl normStep st) := by
  induction init with
  | nil => intro st hg p hp; exact ⟨hp, hg⟩
  | cons s init ih =>
    intro st hg p hp
    obtain ⟨⟨h0, hs⟩, hi⟩ := List.forall_mem_cons.1 hi
    exact ih hi (hg.step h0 hs) (rep_step hg hp)

/-- the last two statements of `resolvePath` -/
def finish (d : Bytes) : Bytes := if d.length > 1 && d.getD 1 0 == 47 then d.drop 1 else d

theorem rend_no_dslash {init : List Bytes} (hi : Inner init) {l : Bytes} (hl : (47 : UInt8) ∉ l) :
    hasPrefix (rend (init ++ [l])) [47, 47] = false := by
  refine Bool.eq_false_iff.2 fun h => ?_
  rcases init with _ | ⟨s, init⟩
  · exact ((isPrefixOf_seg hl [] (by simp) []).1 h).2 rfl
  · exact (hi s (by simp)).1 ((isPrefixOf_seg (hi s (by simp)).2 [] (by simp) _).1 h).1

theorem finish_eq {y : Bytes} (h : hasPrefix (47 :: y) [47, 47] = false) : finish (47 :: y) = 47 :: y := by
  rcases y with _ | ⟨c, y⟩
  · rfl
  · by_cases hc : c = 47
    · subst hc; cases h
    · simp [finish, hc]

theorem finish_plain {st : List Bytes} (hd : hasPrefix (rend st) [47, 47] = false) (hne : st ≠ [])
    {p : Bytes × Bool} (hp : Rep st p) : finish p.1 = rend st := by
  obtain ⟨s, r, rfl⟩ := List.exists_cons_of_ne_nil hne
  rcases hp with rfl | ⟨h, _⟩ | ⟨_, rfl⟩
  · rfl
  · cases h
  · exact finish_eq hd

theorem finish_slash {st : List Bytes} (hg : Inner st) {p : Bytes × Bool} (hp : Rep st p) :
    finish (p.1 ++ [47]) = rend (st ++ [[]]) := by
  rcases hp with rfl | ⟨rfl, rfl⟩ | ⟨hne, rfl⟩
  · rw [rend_concat]
    cases st <;> rfl
  · rfl
  · obtain ⟨s, r, rfl⟩ := List.exists_cons_of_ne_nil hne
    rw [← rend_concat]
    exact finish_eq (rend_no_dslash hg (l := []) List.not_mem_nil)

/-- `resolvePath` after the choice of `full` -/
def resolveFull (full : Bytes) : Bytes :=
  let elems := splitOn 47 full
  let dst := (elems.foldl resolveStep ([47], true)).1
  let last := elems.getLast?.getD []
  finish (if isDot last then dst ++ [47] else dst)

theorem resolveFull_norm {segs : List Bytes} (hok : SegsOK segs) : resolveFull (render segs) = render (normSegs segs) := by
  obtain ⟨init, l, rfl, hi, hl⟩ := segsOK_split hok
  rw [render_normSegs, cleanStack_inner hi]
  unfold resolveFull
  have hsp : splitOn 47 (render (init ++ [l])) = [] :: (init ++ [l]) := by
    rw [render_eq_rend (by simp)]
    exact splitOn_seg (s := []) (by simp) hok.2.1
  have h0 : resolveStep ([47], true) [] = ([47], false) := by simp [resolveStep]
  have hlast : (([] : Bytes) :: (init ++ [l])).getLast?.getD [] = l := by
    rw [← List.cons_append, List.getLast?_concat]; rfl
  simp only [hsp, List.foldl_cons, h0, List.foldl_append, List.foldl_nil, hlast]
  obtain ⟨hrep, hg⟩ := rep_foldl hi good_nil (Or.inl rfl : Rep [] (([47] : Bytes), false))
  generalize init.foldl normStep [] = st at hrep hg
  generalize init.foldl resolveStep ([47], false) = p at hrep
  have hrep' := rep_step hg hrep (s := l)
  unfold fin
  cases hd : isDot l
  · rw [if_neg (by simp), if_neg (by simp), List.append_nil]
    obtain ⟨h1, h2⟩ := isDot_false_iff.1 hd
    rw [normStep_other h1 h2] at hrep' ⊢
    exact finish_plain (rend_no_dslash hg.inner hl) (by simp) hrep'
  · rw [if_pos rfl, if_pos rfl]
    exact finish_slash (hg.step (by rintro rfl; cases hd) hl).inner hrep'

theorem resolvePath_eq (base ref : Bytes) :
    resolvePath base ref =
      let full : Bytes :=
        if ref == [] then base
        else if ref.head? != some 47 then
          (match lastIndexByte base 47 with
           | some i => base.take (i + 1)
           | none => []) ++ ref
        else ref
      if full == [] then [] else resolveFull full := rfl

theorem resolvePath_abs {base y : Bytes} : resolvePath base (47 :: y) = resolveFull (47 :: y) := by
  rw [resolvePath_eq]; simp

theorem resolvePath_empty {y : Bytes} : resolvePath (47 :: y) [] = resolveFull (47 :: y) := by
  rw [resolvePath_eq]; simp

theorem resolvePath_rel {base ref : Bytes} (hb : base ≠ []) (hr : ref ≠ []) (h : ref.head? ≠ some 47) :
    resolvePath base ref = resolveFull (merge true base ref) := by
  rw [merge, if_neg (by simpa using hb), resolvePath_eq]
  simp only [beq_eq_false_iff_ne.2 hr, bne_iff_ne.2 h, Bool.false_eq_true, if_false, if_true]
  cases lastIndexByte base 47 <;> simp [hr]

theorem renderRel_head {ref : List Bytes} (hok : SegsOK ref) (hne : ref ≠ [[]]) :
    renderRel ref ≠ [] ∧ (renderRel ref).head? ≠ some 47 := by
  obtain ⟨s, r, rfl⟩ := List.exists_cons_of_ne_nil hok.1
  rw [renderRel, joinSegs_cons]
  rcases s with _ | ⟨c, s⟩
  · -- an empty first segment is the whole path, or it is followed by another one
    cases r with
    | nil => exact absurd rfl hne
    | cons t r => exact absurd rfl (hok.2.2 [] List.mem_cons_self)
  · have : c ≠ 47 := fun h => hok.2.1 _ List.mem_cons_self (h ▸ List.mem_cons_self)
    simp [this]

theorem merge_render {bi : List Bytes} {bl : Bytes} (hbl : (47 : UInt8) ∉ bl) {ref : List Bytes} (hne : ref ≠ []) :
    merge true (render (bi ++ [bl])) (renderRel ref) = render (bi ++ ref) := by
  obtain ⟨s, r, rfl⟩ := List.exists_cons_of_ne_nil hne
  have e : (rend bi ++ 47 :: bl).take ((rend bi).length + 1) = rend bi ++ [47] := List.take_length_add_append 1
  rw [merge, if_neg (by simp [render]), render_eq_rend (by simp), rend_concat, lastIndexByte_append hbl]
  simp [e, render_eq_rend, rend_append, renderRel, joinSegs_cons]

theorem setPath_getD_fields {t u : URL} {p : Bytes} (ht : t = (setPath u p).getD u) :
    t.host = u.host ∧ t.user = u.user ∧ t.rawQuery = u.rawQuery := by
  obtain ⟨_, _, e⟩ := setPath_getD u p
  rw [ht, e]
  exact ⟨rfl, rfl, rfl⟩

theorem setPath_getD_path {t u x t' : URL} {p : Bytes} (ht : t = (setPath u p).getD u) (h : setPath x p = some t') :
    t.path = t'.path ∧ t.rawPath = t'.rawPath := by
  subst ht
  rw [setPath_eq] at h ⊢
  cases hun : Net.unescape Mode.path p with
  | none => rw [hun] at h; cases h
  | some path => rw [hun] at h; cases h; exact ⟨rfl, rfl⟩

theorem clearURLPort_fields (u : URL) :
    (Obj.clearURLPort u).scheme = u.scheme ∧ (Obj.clearURLPort u).fragment = u.fragment := ⟨rfl, rfl⟩

theorem normalizeURL_fields {u v : URL} (h : Obj.normalizeURL u = .ok v) :
    v.scheme = u.scheme ∧ v.fragment = u.fragment := by
  obtain ⟨_, _, rfl⟩ := Obj.normalizeURL_shape h
  exact ⟨rfl, rfl⟩

theorem built_scheme {u : URL} (h : Obj.Built u) : u.scheme ≠ [] ∧ toLowerAscii u.scheme = u.scheme := by
  induction h with
  | parsed hp hne hn => rw [(normalizeURL_fields hn).1]; exact ⟨hne, Parse_lower hp⟩
  | resolved _ _ hrs hn ih =>
    rw [(normalizeURL_fields hn).1]
    dsimp only
    rw [(resolveReference_rel hrs rfl).1]
    exact ih

end GN.Url.Rfc
