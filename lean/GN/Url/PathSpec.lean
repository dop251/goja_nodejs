import GN.Url.UrlObj
import GN.Url.Rfc3986

/-!
# C14: statements relating the code's path handling (net/url `resolvePath`, `path.Clean` + the trailing-slash repair in
`cleanPath`) to RFC 3986 §5.2.3/§5.2.4, and the component choice of `ResolveReference` to §5.2.2

Only definitions and statements; lemmas in `GN/Url/PathLemmas.lean`, the property theorems are proved in `GN/Props/C14.lean`.
Paths are taken apart into segments: `render ["a", "b", ""] = "/a/b/"` (a final empty segment is a trailing slash).
-/

namespace GN.Url.Rfc
open GN GN.Url GN.Url.Net

/-- segments of a path of the property's grammar: no segment contains `/`; no segment is empty except possibly the
last one (no `//` inside a path) -/
def SegsOK (segs : List Bytes) : Prop :=
  segs ≠ [] ∧ (∀ s ∈ segs, (47 : UInt8) ∉ s) ∧ (∀ s ∈ segs.dropLast, s ≠ [])

def joinSegs : List Bytes → Bytes
  | [] => []
  | [s] => s
  | s :: rest => s ++ 47 :: joinSegs rest

/-- an absolute path -/
def render (segs : List Bytes) : Bytes := 47 :: joinSegs segs
/-- a relative path -/
def renderRel (segs : List Bytes) : Bytes := joinSegs segs

def isDot (s : Bytes) : Bool := s == [46] || s == [46, 46]

/-- the reference normaliser: a stack of segments; `.` is dropped, `..` pops -/
def normStep (stack : List Bytes) (s : Bytes) : List Bytes :=
  if s == [46] then stack else if s == [46, 46] then stack.dropLast else stack ++ [s]

/-- dot segments removed; the result names a directory (ends in an empty segment) iff the input ended in `/`, `/.` or `/..` -/
def normSegs (segs : List Bytes) : List Bytes :=
  let st := (segs.filter (· != [])).foldl normStep []
  match segs.getLast? with
  | some l => if l == [] || isDot l then st ++ [[]] else (if st == [] then [[]] else st)
  | none => [[]]

/-- §5.2.4 computes the reference normaliser -/
def RemoveDotsIsNorm : Prop :=
  ∀ segs, SegsOK segs → removeDotSegments (render segs) = render (normSegs segs)

/-- the output has no dot segments, for every input -/
def NoDotSegmentsLeft : Prop :=
  ∀ segs, SegsOK segs → ∀ s ∈ normSegs segs, isDot s = false

/-- a trailing slash is preserved, and only a directory-like input gets one -/
def TrailingSlashKept : Prop :=
  ∀ segs, SegsOK segs →
    ((normSegs segs).getLast? = some [] ↔
      (segs.getLast? = some [] ∨ segs.getLast? = some [46] ∨ segs.getLast? = some [46, 46] ∨
       (segs.filter (· != [])).foldl normStep [] = []))

/-- normalising twice changes nothing (so the normalisation pass that follows resolution leaves the path alone) -/
def NormIdempotent : Prop :=
  ∀ segs, SegsOK segs → SegsOK (normSegs segs) ∧ normSegs (normSegs segs) = normSegs segs

/-- url.go's `cleanPath` (`path.Clean` plus the trailing-slash repair) is §5.2.4 on every absolute path of the grammar,
whatever the scheme -/
def CleanPathIsRfc : Prop :=
  ∀ segs proto, SegsOK segs → Obj.cleanPath (render segs) proto = removeDotSegments (render segs)

/-- net/url's `resolvePath` is §5.2.3 merge followed by §5.2.4, for a relative reference path … -/
def GoResolveRelativeIsRfc : Prop :=
  ∀ base ref, SegsOK base → SegsOK ref → ref ≠ [[]] →
    resolvePath (render base) (renderRel ref) = removeDotSegments (merge true (render base) (renderRel ref))

/-- … §5.2.4 alone for an absolute reference path … -/
def GoResolveAbsoluteIsRfc : Prop :=
  ∀ base ref, SegsOK base → SegsOK ref →
    resolvePath (render base) (render ref) = removeDotSegments (render ref)

/-- … and the (normalised) base path for an empty one -/
def GoResolveEmptyIsBase : Prop :=
  ∀ base, SegsOK base → resolvePath (render base) [] = removeDotSegments (render base)

/-- §5.2.2: which of base and reference supplies authority and query, for a reference without a scheme -/
def ResolveChoice : Prop :=
  ∀ (b r : URL), b.opaq = [] → r.scheme = [] → r.opaq = [] →
    let t := resolveReference b r
    t.scheme = b.scheme ∧
    -- the reference has an authority: authority and query are the reference's
    ((r.host ≠ [] ∨ r.user.isSome) → t.host = r.host ∧ t.user = r.user ∧ t.rawQuery = r.rawQuery) ∧
    -- no authority: the base's authority
    (r.host = [] → r.user = none → t.host = b.host ∧ t.user = b.user) ∧
    -- empty reference path and no query: the base's query; otherwise the reference's
    (r.host = [] → r.user = none → r.path = [] → r.forceQuery = false → r.rawQuery = [] → t.rawQuery = b.rawQuery) ∧
    (r.host = [] → r.user = none → (r.path ≠ [] ∨ r.forceQuery = true ∨ r.rawQuery ≠ []) → t.rawQuery = r.rawQuery) ∧
    -- the path is what resolvePath computes from the two escaped paths
    (r.host = [] → r.user = none →
      ∀ t', setPath { t with path := [], rawPath := [] } (resolvePath b.escapedPath r.escapedPath) = some t' →
        t.path = t'.path ∧ t.rawPath = t'.rawPath)

/-- `new URL(s)` rejects a string that has no scheme; every URL the constructor returns has a lower-case scheme -/
def SchemeRequiredAndLower : Prop :=
  ∀ s base u, Obj.construct s base = .ok u → u.scheme ≠ [] ∧ toLowerAscii u.scheme = u.scheme

/-- the fragment of `new URL(ref, base)` is the reference's, never the base's -/
def FragmentIsReferences : Prop :=
  ∀ s b u ref, Obj.construct s (some b) = .ok u → Net.Parse s = some ref → ref.scheme = [] →
    u.fragment = ref.fragment

end GN.Url.Rfc
