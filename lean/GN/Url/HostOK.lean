import GN.Url.ObjLemmas
import GN.Url.IdnaLemmas

/-!
# The host of a reachable URL   [C13]

A host string is a port-less part `w` followed by an optional port `opt` (`Split`); `hostWithoutPort` returns `w` and
`Port()` the digits of `opt`.  The port operations of url.go (`clearURLPort`, `dropDefaultPort`, the port handling of
`normalizeURL`, `setURLPort`) touch `opt` only; `fixURL` touches `w` only, by `normW` (`fixHost_split`).  So the invariant
`HostOK` says of `w` that it is as `parseHost` returns it (`PW`) and a fixed point of `normW` (`NW`), and of `opt` that it
is no lone `:` and no default port (`PortN`).  Re-parsing needs two things of it: `hostOK_parse` (the bytes of `PW` are
exactly those that survive `escape` and the decoder of their position) and `hostOK_normOK` (`normalizeURL` leaves the host
alone).
-/

namespace GN.Url.Obj
open GN GN.Url GN.Url.Net

theorem trimSuffix_append (a s : Bytes) : trimSuffix (a ++ s) s = a := by
  unfold trimSuffix
  rw [hasSuffix_append]
  simp

theorem trimSuffix_of_not {s p : Bytes} (h : hasSuffix s p = false) : trimSuffix s p = s := by
  unfold trimSuffix; simp [h]

theorem trimSuffix_cases (s p : Bytes) : s = trimSuffix s p ∨ s = trimSuffix s p ++ p := by
  cases hs : hasSuffix s p with
  | false => exact Or.inl (trimSuffix_of_not hs).symm
  | true =>
    obtain ⟨a, rfl⟩ := hasSuffix_iff.1 hs
    exact Or.inr (by rw [trimSuffix_append])

theorem validOptionalPort_cons (ds : Bytes) : validOptionalPort (58 :: ds) = ds.all isDigit := by
  simp [validOptionalPort]

theorem validOptionalPort_cases {opt : Bytes} (h : validOptionalPort opt = true) :
    opt = [] ∨ ∃ ds, opt = 58 :: ds ∧ ds.all isDigit = true := by
  cases opt with
  | nil => exact Or.inl rfl
  | cons c ds =>
    simp only [validOptionalPort, Bool.and_eq_true, beq_iff_eq] at h
    right; exact ⟨ds, by rw [h.1], h.2⟩

def portOf (h : Bytes) : Bytes := (splitHostPort h).2

/-- `hostWithoutPort` as a function of the host string -/
def hwp (h : Bytes) : Bytes := if portOf h != [] then trimSuffix h (58 :: portOf h) else trimSuffix h [58]

theorem port_eq (u : URL) : u.port = portOf u.host := rfl
theorem hostWithoutPort_eq (u : URL) : hostWithoutPort u = hwp u.host := rfl

theorem portOf_noColon {h : Bytes} (hc : (58 : UInt8) ∉ h) : portOf h = [] := by
  unfold portOf splitHostPort
  rw [lastIndexByte_eq_none hc]

theorem portOf_colon (a : Bytes) {b : Bytes} (hb : (58 : UInt8) ∉ b) :
    portOf (a ++ 58 :: b) = if b.all isDigit then b else [] := by
  unfold portOf splitHostPort
  rw [lastIndexByte_append hb]
  cases hv : b.all isDigit <;> simp [validOptionalPort_cons, hv]

theorem portOf_digits (h : Bytes) : (portOf h).all isDigit = true := by
  rcases last_occurrence h 58 with hc | ⟨a, b, rfl, hb⟩
  · rw [portOf_noColon hc]; rfl
  · rw [portOf_colon a hb]
    split
    · assumption
    · rfl

theorem hwp_decomp (host : Bytes) : ∃ opt, host = hwp host ++ opt ∧ validOptionalPort opt = true := by
  have hv : validOptionalPort (58 :: portOf host) = true := by rw [validOptionalPort_cons]; exact portOf_digits host
  unfold hwp
  split
  · rcases trimSuffix_cases host (58 :: portOf host) with e | e
    · exact ⟨[], by rw [List.append_nil]; exact e, rfl⟩
    · exact ⟨_, e, hv⟩
  · rcases trimSuffix_cases host [58] with e | e
    · exact ⟨[], by rw [List.append_nil]; exact e, rfl⟩
    · exact ⟨_, e, rfl⟩

theorem digitChar_byte {c : Char} (h : c.isDigit = true) :
    String.utf8EncodeChar c = [c.val.toUInt8] ∧ isDigit c.val.toUInt8 = true ∧
    c.val.toUInt8.toNat - 48 = c.toNat - '0'.toNat := by
  have hd := Char.isDigit_iff_toNat.1 h
  simp only [Char.reduceToNat] at hd
  obtain ⟨he, hn⟩ := asciiChar_byte c (by omega)
  refine ⟨he, ?_, by rw [hn]; rfl⟩
  unfold isDigit
  simp only [Bool.and_eq_true, decide_eq_true_eq, UInt8.le_iff_toNat_le, hn]
  exact hd

theorem digits_bytes {cs : List Char} (h : ∀ c ∈ cs, c.isDigit = true) (init : Nat) :
    (cs.flatMap String.utf8EncodeChar).all isDigit = true ∧
    (cs.flatMap String.utf8EncodeChar).foldl (fun n c => n * 10 + (c.toNat - 48)) init = Nat.ofDigitChars 10 cs init := by
  induction cs generalizing init with
  | nil => exact ⟨rfl, rfl⟩
  | cons c t ih =>
    obtain ⟨h1, h2, h3⟩ := digitChar_byte (h c (by simp))
    have iht := fun i => ih (fun x hx => h x (by simp [hx])) i
    rw [List.flatMap_cons, h1]
    constructor
    · simp only [List.singleton_append, List.all_cons, h2, Bool.true_and]
      exact (iht 0).1
    · simp only [List.singleton_append, List.foldl_cons]
      rw [(iht _).2, Nat.ofDigitChars_cons, h3, Nat.mul_comm]

theorem itoa_spec (n : Nat) : (itoa n).all isDigit = true ∧ itoa n ≠ [] ∧ natOfDigits (itoa n) = n := by
  have e : itoa n = (Nat.toDigits 10 n).flatMap String.utf8EncodeChar := by
    unfold itoa bytesOf
    rw [Nat.toString_eq_ofList_toDigits, utf8_bytes]
  have hd : ∀ c ∈ Nat.toDigits 10 n, c.isDigit = true :=
    fun c hc => Nat.isDigit_of_mem_toDigits (by decide) (by decide) hc
  obtain ⟨h1, h2⟩ := digits_bytes hd 0
  rw [e]
  refine ⟨h1, ?_, ?_⟩
  · intro h0
    obtain ⟨c, hc⟩ := List.exists_mem_of_ne_nil _ (Nat.toDigits_ne_nil (b := 10) (n := n))
    exact String.utf8EncodeChar_ne_nil (List.flatMap_eq_nil_iff.1 h0 c hc)
  · unfold natOfDigits
    rw [h2, Nat.ofDigitChars_ten_toDigits]

theorem atoi_digits {ds : Bytes} {n : Nat} (h : atoi ds = some n) : ds.all isDigit = true ∧ ds ≠ [] := by
  unfold atoi at h
  by_cases hc : (ds == [] || !ds.all isDigit) = true
  · rw [if_pos hc] at h; cases h
  · simpa [and_comm] using hc

theorem atoi_itoa (n : Nat) (h : n < 2 ^ 63) : atoi (itoa n) = some n := by
  obtain ⟨h1, h2, h3⟩ := itoa_spec n
  have : (itoa n == []) = false := by simpa using h2
  rw [atoi, this, h1, if_neg (by decide)]
  dsimp only
  rw [h3, if_neg (by omega)]

/-- a byte the decoder of `parseHost` can produce, in the host proper (`.host`) or in a zone id (`.zone`, where `%20` is
accepted too) -/
def hostB (m : Mode) (c : UInt8) : Bool := !shouldEscape c .host || c ≥ 128 || c == 37 || (m == .zone && c == 32)

theorem shouldEscape_alpha {c : UInt8} (m : Mode) (h : isAlpha c = true) : shouldEscape c m = false := by
  simp [shouldEscape, h]

theorem alpha_ascii {c : UInt8} (h : isAlpha c = true) : c < 128 := by
  simp only [isAlpha, Bool.or_eq_true, Bool.and_eq_true, decide_eq_true_eq] at h
  exact UInt8.lt_of_le_of_lt (h.elim (·.2) fun h => UInt8.le_trans h.2 (by decide)) (by decide)

theorem hostB_alpha (m : Mode) (c : UInt8) (h : isAlpha c = true) : hostB m c = true := by
  simp [hostB, shouldEscape_alpha _ h]

def HostMode (m : Mode) : Prop := m = .host ∨ m = .zone

theorem HostMode.beq {m : Mode} (hm : HostMode m) : (m == .host || m == .zone) = true := by
  rcases hm with rfl | rfl <;> rfl

theorem HostMode.shouldEscape {m : Mode} (hm : HostMode m) (c : UInt8) : shouldEscape c m = shouldEscape c .host := by
  rcases hm with rfl | rfl
  · rfl
  · rfl

theorem plusByte_host {m : Mode} (hm : HostMode m) (c : UInt8) : plusByte m c = c :=
  plusByte_eq (by rcases hm with rfl | rfl <;> rfl) c

theorem litOk_hostB {m : Mode} (hm : HostMode m) {c : UInt8} (h : litOk m c = true) : hostB m c = true := by
  cases hs : shouldEscape c .host with
  | false => simp [hostB, hs]
  | true =>
    rw [litOk, hm.shouldEscape, hs, hm.beq] at h
    by_cases h43 : c = 43
    · subst h43; exact absurd hs (by decide)
    · have : ¬ c < 128 := by simpa [h43] using h
      simp [hostB, UInt8.not_lt.1 this]

theorem pctOk_hostB {m : Mode} (hm : HostMode m) {x y : UInt8} (h : pctOk m x y = true) :
    hostB m (unhex x <<< 4 ||| unhex y) = true := by
  rcases hm with rfl | rfl
  · rcases pct_host_byte h with e | e <;> simp [hostB, e]
  · rw [pctOk, Bool.and_eq_true] at h
    by_cases h25 : (x == 50 && y == 53) = true
    · simp only [Bool.and_eq_true, beq_iff_eq] at h25
      obtain ⟨rfl, rfl⟩ := h25; decide
    · cases hs : shouldEscape (unhex x <<< 4 ||| unhex y) .host with
      | false => simp [hostB, hs]
      | true =>
        have : (unhex x <<< 4 ||| unhex y) = 32 := by simpa [h25, hs] using h.2
        simp [hostB, this]

theorem unescape_image {m : Mode} (hm : HostMode m) {a r : Bytes} (h : Net.unescape m a = some r) :
    r.all (hostB m) = true := by
  obtain ⟨hok, rfl⟩ := unescape_some h
  refine unescapeOk_ind (fun a => (unescapeRaw m a).all (hostB m) = true) rfl ?_ ?_ a hok
  · intro x y t h ih
    rw [unescapeOk_pct] at h
    simp only [Bool.and_eq_true] at h
    rw [raw_pct, List.all_cons, ih, pctOk_hostB hm h.1.2]; rfl
  · intro c t hc h ih
    rw [unescapeOk_cons hc, Bool.and_eq_true] at h
    rw [raw_cons_ne hc, List.all_cons, ih, plusByte_host hm, litOk_hostB hm h.1]; rfl

theorem hi_nibble : ∀ {c : UInt8}, 128 ≤ c → (unhex (hexU (c >>> 4)) < 8) = false := by decide +kernel

theorem pctOk_escaped {m : Mode} (hm : HostMode m) {c : UInt8} (hc : hostB m c = true) (ha : m = .zone → c < 128)
    (hs : shouldEscape c .host = true) : pctOk m (hexU (c >>> 4)) (hexU (c &&& 15)) = true := by
  rw [hostB, hs] at hc
  by_cases h37 : c = 37
  · subst h37; rcases hm with rfl | rfl <;> decide
  · rcases hm with rfl | rfl
    · have : 128 ≤ c := by simpa [h37] using hc
      simp [pctOk, hi_nibble this]
    · have : c = 32 := by simpa [h37, UInt8.not_le.2 (ha rfl)] using hc
      subst this; decide

theorem unescape_escape_host {m : Mode} (hm : HostMode m) {s : Bytes} (hs : s.all (hostB m) = true)
    (ha : m = .zone → s.all (· < 128) = true) : Net.unescape m (Net.escape .host s) = some s := by
  have key := unescape_escape_of m .host s fun c hc rest => by
    have hb := List.all_eq_true.1 hs c hc
    refine unescape_escByte_of rest rfl rfl (pctOk_escaped hm hb fun h => by simpa using List.all_eq_true.1 (ha h) c hc)
      fun hse => ⟨?_, plusByte_host hm c⟩
    rw [litOk, hm.shouldEscape, hse]; simp
  rw [Net.unescape, key.1, key.2]; rfl

/-- ASCII bytes that `escape .host` copies: such a piece prints and re-reads as itself (`hostSimple_escape`, `_unescape`) -/
def HostSimple (h : Bytes) : Prop := ∀ c ∈ h, c < 128 ∧ shouldEscape c .host = false

theorem hostSimple_escape {h : Bytes} (hs : HostSimple h) : Net.escape .host h = h :=
  flatMap_eq_self fun c hc => by simp [Net.escByte, (hs c hc).2]

theorem hostSimple_hostB {h : Bytes} (hs : HostSimple h) (m : Mode) : h.all (hostB m) = true :=
  List.all_eq_true.2 fun c hc => by simp [hostB, (hs c hc).2]

theorem hostSimple_ascii {h : Bytes} (hs : HostSimple h) : h.all (· < 128) = true :=
  List.all_eq_true.2 fun c hc => by simpa using (hs c hc).1

theorem hostSimple_unescape {m : Mode} (hm : HostMode m) {h : Bytes} (hs : HostSimple h) :
    Net.unescape m h = some h := by
  have := unescape_escape_host hm (hostSimple_hostB hs m) (fun _ => hostSimple_ascii hs)
  rwa [hostSimple_escape hs] at this

theorem optByte : ∀ c : UInt8, c = 58 ∨ isDigit c = true →
    (c < 128 ∧ shouldEscape c .host = false) ∧ c ≠ 93 ∧ lowerByte c = c := by decide +kernel

theorem optByte_of_mem {opt : Bytes} (ho : validOptionalPort opt = true) {c : UInt8} (hc : c ∈ opt) :
    (c < 128 ∧ shouldEscape c .host = false) ∧ c ≠ 93 ∧ lowerByte c = c := by
  refine optByte c ?_
  rcases validOptionalPort_cases ho with e | ⟨ds, e, hd⟩ <;> subst e
  · cases hc
  · exact (List.mem_cons.1 hc).imp id (List.all_eq_true.1 hd c)

theorem toLowerAscii_opt {opt : Bytes} (h : validOptionalPort opt = true) : toLowerAscii opt = opt := by
  rw [toLowerAscii_eq]
  conv => rhs; rw [← List.map_id opt]
  exact List.map_congr_left fun c hc => (optByte_of_mem h hc).2.2

theorem opt_simple {opt : Bytes} (ho : validOptionalPort opt = true) : HostSimple opt :=
  fun _ hc => (optByte_of_mem ho hc).1

theorem opt_no_bracket {opt : Bytes} (ho : validOptionalPort opt = true) : (93 : UInt8) ∉ opt :=
  fun hc => (optByte_of_mem ho hc).2.1 rfl

theorem bracket_opt_simple {opt : Bytes} (ho : validOptionalPort opt = true) : HostSimple (93 :: opt) :=
  List.forall_mem_cons.2 ⟨by decide, opt_simple ho⟩

/-- `[`address`]` or `[`address`%`zone`]`: the address has no `%`, the zone id (if any) begins with one -/
def Bracketed (w : Bytes) : Prop :=
  ∃ p q, w = 91 :: p ++ q ++ [93] ∧ p.all (hostB .host) = true ∧ (37 : UInt8) ∉ p ∧
    (q = [] ∨ ∃ t, q = 37 :: t) ∧ q.all (hostB .zone) = true

theorem hostB_zone_of_host {c : UInt8} (h : hostB .host c = true) : hostB .zone c = true := by
  rw [hostB] at h ⊢
  rw [show (Mode.host == Mode.zone) = false from rfl, Bool.false_and, Bool.or_false] at h
  rw [h]; rfl

/-- the decoded piece before the zone id may itself contain a `%` (from `%25`): the zone id is taken to begin there -/
theorem bracketed_of_parts {p1 h2 : Bytes} (hl1 : p1.all (hostB .host) = true) (hl2 : h2.all (hostB .zone) = true)
    (hh2 : h2 = [] ∨ ∃ t, h2 = 37 :: t) : Bracketed (91 :: p1 ++ h2 ++ [93]) := by
  by_cases hm : (37 : UInt8) ∈ p1
  · obtain ⟨a, b, e, ha⟩ := List.eq_append_cons_of_mem hm
    subst e
    rw [List.all_append, Bool.and_eq_true, List.all_cons, Bool.and_eq_true] at hl1
    refine ⟨a, 37 :: b ++ h2, by simp, hl1.1, ha, Or.inr ⟨_, rfl⟩, ?_⟩
    rw [List.cons_append, List.all_cons, List.all_append, hl2, Bool.and_true, Bool.and_eq_true]
    exact ⟨by decide, List.all_eq_true.2 fun c hc => hostB_zone_of_host (List.all_eq_true.1 hl1.2.2 c hc)⟩
  · exact ⟨p1, h2, rfl, hl1, hm, hh2, hl2⟩

/-- the port-less part of a host that `parseHost` has returned and `validHostColons` has accepted -/
def PW (w : Bytes) : Prop :=
  (hasPrefix w [91] = false ∧ (58 : UInt8) ∉ w ∧ w.all (hostB .host) = true) ∨ Bracketed w

theorem Bracketed.hasPrefix {w : Bytes} (h : Bracketed w) : hasPrefix w [91] = true := by
  obtain ⟨p, q, rfl, _⟩ := h; rfl

theorem PW.noPort {w a ds : Bytes} (h : PW w) (e : w = a ++ 58 :: ds) : ds.all isDigit = false := by
  rcases h with ⟨_, h, _⟩ | ⟨p, q, e', _⟩
  · exact absurd (e ▸ List.mem_append_right a List.mem_cons_self) h
  · -- the last byte is `]`
    have hm : (a ++ 58 :: ds).getLast? = some 93 := by rw [← e, e', List.getLast?_append]; rfl
    rw [Bool.eq_false_iff]
    intro hall
    rcases List.mem_cons.1 (mem_of_getLast?_append (List.cons_ne_nil 58 ds) hm) with h' | h'
    · cases h'
    · exact not_mem_of_all hall (c := 93) rfl h'

structure Split (h w opt : Bytes) : Prop where
  eq : h = w ++ opt
  pw : PW w
  valid : validOptionalPort opt = true

theorem validHostColons_eq (u : URL) :
    validHostColons u = (hasPrefix (hwp u.host) [91] || !(hwp u.host).contains 58) := rfl

theorem hasPrefix_split (w : Bytes) {opt : Bytes} (ho : validOptionalPort opt = true) :
    hasPrefix (w ++ opt) [91] = hasPrefix w [91] := by
  cases w with
  | cons c t => rfl
  | nil => rcases validOptionalPort_cases ho with e | ⟨ds, e, _⟩ <;> subst e <;> rfl

theorem parseHost_bracket {X opt : Bytes} (hX : hasPrefix X [91] = true) (h93 : (93 : UInt8) ∉ opt) :
    parseHost (X ++ 93 :: opt) =
      if validOptionalPort opt then
        match indexSub X [37, 50, 53] with
        | some z => (Net.unescape .host ((X ++ 93 :: opt).take z)).bind fun h1 =>
            (Net.unescape .zone (X.drop z)).map fun h2 => h1 ++ h2 ++ 93 :: opt
        | none => Net.unescape .host (X ++ 93 :: opt)
      else none := by
  obtain ⟨t, rfl⟩ := hasPrefix_iff.1 hX
  have hp : hasPrefix ([91] ++ t ++ 93 :: opt) [91] = true := rfl
  unfold parseHost
  rw [if_pos hp, lastIndexByte_append h93]
  dsimp only
  have hd : ([91] ++ t ++ 93 :: opt).drop (([91] ++ t).length + 1) = opt := by simp
  rw [List.take_left, List.drop_left, hd]
  cases ho : validOptionalPort opt with
  | false => rfl
  | true =>
    rw [hostSimple_unescape (Or.inl rfl) (bracket_opt_simple ho)]
    cases indexSub ([91] ++ t) [37, 50, 53] with
    | none => rfl
    | some z =>
      dsimp only
      cases Net.unescape .host (([91] ++ t ++ 93 :: opt).take z) <;>
        cases Net.unescape .zone (([91] ++ t).drop z) <;> rfl

theorem parseHost_split {a : Bytes} {p : URL} (h : parseHost a = some p.host) (hc : validHostColons p = true) :
    ∃ w opt, Split p.host w opt := by
  have hhost : HostMode .host := Or.inl rfl
  rw [validHostColons_eq] at hc
  generalize p.host = r at h hc ⊢
  cases hb : hasPrefix a [91] with
  | true =>
    obtain ⟨a', rfl⟩ := hasPrefix_iff.1 hb
    rcases last_occurrence a' 93 with hn | ⟨A', opt, rfl, h93⟩
    · rw [parseHost, if_pos hb, lastIndexByte_eq_none (by simpa using hn)] at h; cases h
    -- bracketed: cut at the last `]`; what follows it must be an optional port
    replace h : parseHost (91 :: A' ++ 93 :: opt) = some r := h
    rw [parseHost_bracket rfl h93] at h
    cases hv : validOptionalPort opt with
    | false => rw [hv] at h; cases h
    | true =>
    rw [hv, if_pos rfl] at h
    cases hz : indexSub (91 :: A') [37, 50, 53] with
    | none =>
      -- no zone id: all is decoded in host mode; `]` is no hex digit, so the decoding splits there, and `]opt` is plain
      rw [hz] at h
      obtain ⟨hok, rfl⟩ := unescape_some h
      have hl := unescape_image hhost h
      have h3 := (unescape_some (hostSimple_unescape hhost (bracket_opt_simple hv))).2
      rw [(unescape_split (by decide) hok).2.2, ← h3, raw_bracket] at hl ⊢
      rw [List.all_append, Bool.and_eq_true, List.all_cons, Bool.and_eq_true] at hl
      exact ⟨_, opt, by simp, Or.inr (bracketed_of_parts (h2 := []) hl.1.2 rfl (Or.inl rfl)), hv⟩
    | some zone =>
      rw [hz] at h
      simp only [Option.bind_eq_some_iff, Option.map_eq_some_iff] at h
      obtain ⟨h1, hu1, h2, hu2, rfl⟩ := h
      -- the zone id begins with `%25`, which is decoded to `%`; so it does not begin at `[`
      obtain ⟨r', er⟩ := List.isPrefixOf_iff_prefix.1 (indexSub_prefix hz)
      have e2 := (unescape_some hu2).2
      rw [← er, List.cons_append, List.cons_append, List.cons_append, raw_pct] at e2
      obtain ⟨z, rfl⟩ : ∃ z, zone = z + 1 := by
        cases zone with
        | zero => cases er
        | succ z => exact ⟨z, rfl⟩
      have e1 := (unescape_some hu1).2
      rw [List.cons_append, List.take_succ_cons, raw_bracket] at e1
      have hl1 := unescape_image hhost hu1
      rw [e1, List.all_cons, Bool.and_eq_true] at hl1
      refine ⟨h1 ++ h2 ++ [93], opt, by simp, ?_, hv⟩
      rw [e1]
      exact Or.inr (bracketed_of_parts hl1.2 (unescape_image (Or.inr rfl) hu2) (Or.inr ⟨_, e2⟩))
  | false =>
    -- no `[` in front: the input is decoded as a whole, and the result still has no `[` in front; it is cut where
    -- `hostWithoutPort` cuts it, and `validHostColons` says that the first part has no `:`
    have hu : Net.unescape .host a = some r := by
      rw [parseHost, hb, if_neg Bool.false_ne_true] at h
      split at h
      · split at h
        · cases h
        · exact h
      · exact h
    obtain ⟨hok, er⟩ := unescape_some hu
    have hl := unescape_image hhost hu
    obtain ⟨opt, e, ho⟩ := hwp_decomp r
    have hb' : hasPrefix (hwp r) [91] = false := by
      rw [← hasPrefix_split _ ho, ← e, er]; exact raw_host_first hb hok
    rw [hb', Bool.false_or] at hc
    rw [e, List.all_append, Bool.and_eq_true] at hl
    exact ⟨hwp r, opt, e, Or.inl ⟨hb', by simpa using hc, hl.1⟩, ho⟩

theorem escape_host_no_colon {w : Bytes} (h : (58 : UInt8) ∉ w) : (58 : UInt8) ∉ Net.escape .host w := by
  intro hm
  obtain ⟨c, hc, hx⟩ := List.mem_flatMap.1 hm
  obtain ⟨h1, h2, -⟩ := hexU_roundtrip c
  rcases escByte_host_cases c with e | e <;> rw [e] at hx <;> simp only [List.mem_cons, List.not_mem_nil, or_false] at hx
  · exact h (hx ▸ hc)
  · -- `:` is neither `%` nor a hex digit
    rcases hx with hx | hx | hx
    · cases hx
    · rw [← hx] at h1; cases h1
    · rw [← hx] at h2; cases h2

theorem escape_host_head {h : Bytes} (hp : hasPrefix h [91] = false) : hasPrefix (Net.escape .host h) [91] = false := by
  cases h with
  | nil => rfl
  | cons c t =>
    rw [hasPrefix_cons1] at hp
    rw [Net.escape, List.flatMap_cons]
    rcases escByte_host_cases c with e | e <;> rw [e]
    · exact hasPrefix_cons1.trans hp
    · rfl

theorem parseHost_escape_plain {w opt : Bytes} (hb : hasPrefix w [91] = false) (hc : (58 : UInt8) ∉ w)
    (hl : w.all (hostB .host) = true) (ho : validOptionalPort opt = true) :
    parseHost (Net.escape .host (w ++ opt)) = some (w ++ opt) := by
  have hun : Net.unescape .host (Net.escape .host (w ++ opt)) = some (w ++ opt) :=
    unescape_escape_host (Or.inl rfl) (by rw [List.all_append, hl, hostSimple_hostB (opt_simple ho)]; rfl)
      (fun h => by cases h)
  have hesc : Net.escape .host (w ++ opt) = Net.escape .host w ++ opt := by
    rw [escape_append, hostSimple_escape (opt_simple ho)]
  have hcol := escape_host_no_colon hc
  unfold parseHost
  rw [hun, hesc, if_neg (by rw [hasPrefix_split _ ho, escape_host_head hb]; exact Bool.false_ne_true)]
  rcases validOptionalPort_cases ho with e | ⟨ds, e, hds⟩ <;> subst e
  · rw [List.append_nil, lastIndexByte_eq_none hcol]
  · rw [lastIndexByte_append (not_mem_of_all hds rfl)]
    dsimp only
    rw [List.drop_left, ho]; rfl

theorem simple_of_hostB {p : Bytes} (hl : p.all (hostB .host) = true) (h37 : (37 : UInt8) ∉ p)
    (ha : p.all (· < 128) = true) : HostSimple p := by
  intro c hc
  have h1 := List.all_eq_true.1 hl c hc
  have h2 : c < 128 := by simpa using List.all_eq_true.1 ha c hc
  refine ⟨h2, ?_⟩
  cases hs : shouldEscape c .host with
  | false => rfl
  | true =>
    have : c ≠ 37 := fun e => h37 (e ▸ hc)
    simp [hostB, hs, this, UInt8.not_le.2 h2] at h1

theorem parseHost_escape_bracketed {w opt : Bytes} (hw : Bracketed w) (ha : w.all (· < 128) = true)
    (ho : validOptionalPort opt = true) : parseHost (Net.escape .host (w ++ opt)) = some (w ++ opt) := by
  obtain ⟨p, q, rfl, hlp, h37, hq, hlq⟩ := hw
  simp only [List.cons_append, List.all_cons, List.all_append, Bool.and_eq_true] at ha
  have hsp : HostSimple (91 :: p) := List.forall_mem_cons.2 ⟨by decide, simple_of_hostB hlp h37 ha.2.1.1⟩
  have hso := bracket_opt_simple ho
  have h37' : (37 : UInt8) ∉ 91 :: p := fun h => absurd (hsp 37 h).2 (by decide)
  have hesc : Net.escape .host (91 :: p ++ q ++ [93] ++ opt) = (91 :: p ++ Net.escape .host q) ++ 93 :: opt := by
    rw [show 91 :: p ++ q ++ [93] ++ opt = (91 :: p) ++ (q ++ 93 :: opt) by simp, escape_append, escape_append,
      hostSimple_escape hsp, hostSimple_escape hso]
    simp
  rw [hesc, parseHost_bracket rfl (opt_no_bracket ho), if_pos ho]
  rcases hq with rfl | ⟨t, rfl⟩
  · -- no zone id: the whole host is plain
    have hs : HostSimple (91 :: p ++ 93 :: opt) := List.forall_mem_append.2 ⟨hsp, hso⟩
    rw [show Net.escape .host [] = [] from rfl, List.append_nil, indexSub_none [50, 53] h37']
    simpa using hostSimple_unescape (Or.inl rfl) hs
  · have heq : Net.escape .host (37 :: t) = 37 :: ([50, 53] ++ Net.escape .host t) := by
      rw [Net.escape, List.flatMap_cons, show Net.escByte .host 37 = [37, 50, 53] by decide]; rfl
    have u1 : Net.unescape .host (91 :: p) = some (91 :: p) := hostSimple_unescape (Or.inl rfl) hsp
    have u2 : Net.unescape .zone (Net.escape .host (37 :: t)) = some (37 :: t) :=
      unescape_escape_host (Or.inr rfl) hlq (fun _ => ha.2.1.2)
    rw [heq, indexSub_append [50, 53] _ h37']
    dsimp only
    rw [List.append_assoc, List.take_left, List.drop_left, ← heq, u1, u2]
    simp

theorem PW.portOf {w : Bytes} (h : PW w) : portOf w = [] := by
  rcases last_occurrence w 58 with hc | ⟨a, b, e, hb⟩
  · exact portOf_noColon hc
  · rw [e, portOf_colon a hb, h.noPort e]; rfl

theorem PW.trim {w : Bytes} (h : PW w) : trimSuffix w [58] = w := by
  refine trimSuffix_of_not (Bool.eq_false_iff.2 fun hs => ?_)
  obtain ⟨a, e⟩ := hasSuffix_iff.1 hs
  cases h.noPort e

theorem Split.port {u : URL} {w opt : Bytes} (h : Split u.host w opt) : u.port = opt.drop 1 := by
  rw [port_eq, h.eq]
  rcases validOptionalPort_cases h.valid with rfl | ⟨ds, rfl, hd⟩
  · rw [List.append_nil]; exact h.pw.portOf
  · rw [portOf_colon w (not_mem_of_all hd rfl), if_pos hd]; rfl

theorem Split.hostWithoutPort {u : URL} {w opt : Bytes} (h : Split u.host w opt) : hostWithoutPort u = w := by
  rw [hostWithoutPort_eq, hwp, ← port_eq, h.port, h.eq]
  rcases validOptionalPort_cases h.valid with rfl | ⟨ds, rfl, _⟩
  · rw [List.append_nil]; exact h.pw.trim
  · cases ds with
    | nil => exact trimSuffix_append w [58]
    | cons d ds => exact trimSuffix_append w (58 :: d :: ds)

/-- `fixURL` drops a lone `:` -/
def trimOpt (opt : Bytes) : Bytes := if opt = [58] then [] else opt

theorem trimOpt_valid {opt : Bytes} (ho : validOptionalPort opt = true) : validOptionalPort (trimOpt opt) = true := by
  unfold trimOpt
  split
  · rfl
  · exact ho

theorem trimOpt_ne (opt : Bytes) : trimOpt opt ≠ [58] := by
  unfold trimOpt
  split
  · simp
  · assumption

theorem trimOpt_drop (opt : Bytes) : (trimOpt opt).drop 1 = opt.drop 1 := by
  unfold trimOpt
  split
  · next e => rw [e]; rfl
  · rfl

theorem last_not_colon (w : Bytes) {d : Bytes} {x : UInt8} (hd : (x :: d).all isDigit = true) :
    hasSuffix (w ++ 58 :: x :: d) [58] = false := by
  rw [Bool.eq_false_iff]
  intro hs
  have := getLast?_of_hasSuffix hs
  rw [show w ++ 58 :: x :: d = (w ++ [58]) ++ (x :: d) by simp] at this
  exact not_mem_of_all hd (c := 58) rfl (mem_of_getLast?_append (List.cons_ne_nil x d) this)

theorem trim_split {w opt : Bytes} (hw : PW w) (ho : validOptionalPort opt = true) :
    trimSuffix (w ++ opt) [58] = w ++ trimOpt opt := by
  rcases validOptionalPort_cases ho with e | ⟨ds, e, hd⟩ <;> subst e
  · simpa [trimOpt] using hw.trim
  · cases ds with
    | nil => simpa [trimOpt] using trimSuffix_append w [58]
    | cons x d => simpa [trimOpt] using trimSuffix_of_not (last_not_colon w hd)

/-- the port is put behind a host again (by `fixURL`, by the `hostname` setter) -/
theorem withPort_eq {opt : Bytes} (ho : validOptionalPort opt = true) (hne : opt ≠ [58]) (x : Bytes) :
    (if opt.drop 1 != [] then x ++ 58 :: opt.drop 1 else x) = x ++ opt := by
  rcases validOptionalPort_cases ho with rfl | ⟨ds, rfl, _⟩
  · simp
  · cases ds with
    | nil => exact absurd rfl hne
    | cons d ds => rfl

theorem splitHostPort_split {w opt : Bytes} (hc : (58 : UInt8) ∉ w) (hb : hasPrefix w [91] = false)
    (ho : validOptionalPort opt = true) : splitHostPort (w ++ opt) = (w, opt.drop 1) := by
  rcases validOptionalPort_cases ho with e | ⟨ds, e, hds⟩ <;> subst e <;> unfold splitHostPort
  · rw [List.append_nil, lastIndexByte_eq_none hc]
    simp [hb]
  · rw [lastIndexByte_append (not_mem_of_all hds rfl)]
    simp [validOptionalPort_cons, hds, hb]

/-- what `fixURL` makes of the port-less part of a host (`fixHost_split`); of the bracketed ones the model covers those
that are ASCII -/
def normW (s w : Bytes) : Except Err Bytes :=
  if hasPrefix w [91] then
    if w.all (· < 128) then .ok (toLowerAscii w) else .error .noclaim
  else if isSpecialNetProtocol s then
    match Idna.toASCII w with
    | .noclaim => .error .noclaim
    | .error => .error .invalidHostname
    | .ok ch => .ok ch
  else .ok w

theorem fixHost_split (s : Bytes) {h w opt : Bytes} (hs : Split h w opt) :
    fixHost s h = (normW s w).map (· ++ trimOpt opt) := by
  obtain ⟨rfl, hp, ho⟩ := hs
  have ho1 := trimOpt_valid ho
  -- `trimSuffix` drops a lone `:` (`trim_split`), `splitHostPort` cuts `w` from the port (`splitHostPort_split`), and after
  -- `toASCII` the port is put back (`withPort_eq`); a bracketed host is lower-cased as a whole, which leaves the port alone
  unfold fixHost normW
  simp only [trim_split hp ho, hasPrefix_split w ho1]
  rcases hp with ⟨hb, hc, _⟩ | hbr
  · simp only [hb, Bool.false_eq_true, if_false, splitHostPort_split hc hb ho1]
    split
    · cases Idna.toASCII w with
      | noclaim => rfl
      | error => rfl
      | ok ch =>
        simp only [Except.map]
        split
        · rw [withPort_eq ho1 (trimOpt_ne opt)]
        · next hce => simp only [bne_iff_ne, ne_eq, Decidable.not_not] at hce; rw [hce]
    · rfl
  · simp only [hbr.hasPrefix, if_true, List.all_append, hostSimple_ascii (opt_simple ho1), Bool.and_true]
    split
    · rw [toLowerAscii_eq, List.map_append, ← toLowerAscii_eq, ← toLowerAscii_eq, toLowerAscii_opt ho1]; rfl
    · rfl

/-- `w` is a fixed point of `normW`, as far as the punycode model can tell (it makes no claim about `xn--` labels) -/
def NW (s w : Bytes) : Prop := normW s w = .ok w ∨ (hasPrefix w [91] = false ∧ normW s w = .error .noclaim)

theorem NW.ascii {s w : Bytes} (h : NW s w) (hb : hasPrefix w [91] = true) : w.all (· < 128) = true := by
  rcases h with h | ⟨h, _⟩
  · rw [normW, hb, if_pos rfl] at h
    by_cases ha : w.all (· < 128) = true
    · exact ha
    · rw [if_neg ha] at h; cases h
  · rw [hb] at h; cases h

theorem ldh_hostB (b : UInt8) (h : ldh b = true) : hostB .host b = true := by
  have : shouldEscape b .host = false := by
    simp only [ldh, Bool.or_eq_true, beq_iff_eq] at h
    rcases h with ((h | h) | h) | h
    · exact shouldEscape_alpha _ (by rw [isAlpha, h]; rfl)
    · simp [shouldEscape, h]
    · subst h; decide
    · subst h; decide
  simp [hostB, this]

theorem Bracketed.toLower {w : Bytes} (h : Bracketed w) : Bracketed (toLowerAscii w) := by
  obtain ⟨p, q, rfl, hlp, h37, hq, hlq⟩ := h
  refine ⟨toLowerAscii p, toLowerAscii q, by simp [toLowerAscii_eq, lowerByte], toLowerAscii_all (hostB_alpha _) hlp,
    ?_, ?_, toLowerAscii_all (hostB_alpha _) hlq⟩
  · rw [toLowerAscii_eq]
    intro hm
    obtain ⟨c, hc, e⟩ := List.mem_map.1 hm
    exact h37 (lowerByte_eq (by decide) e ▸ hc)
  · rcases hq with rfl | ⟨t, rfl⟩
    · exact Or.inl rfl
    · exact Or.inr ⟨toLowerAscii t, rfl⟩

theorem normW_ok {s w w' : Bytes} (h : normW s w = .ok w') (hp : PW w) : PW w' ∧ NW s w' := by
  unfold normW at h
  rcases hp with ⟨hb, hc, hl⟩ | hbr
  · rw [hb, if_neg Bool.false_ne_true] at h
    by_cases hs : isSpecialNetProtocol s = true
    · rw [if_pos hs] at h
      cases hch : Idna.toASCII w with
      | noclaim => rw [hch] at h; cases h
      | error => rw [hch] at h; cases h
      | ok ch =>
        rw [hch] at h
        cases h
        have hb' := idna_prefix hch hb
        refine ⟨Or.inl ⟨hb', toASCII_no_colon hch hc, ?_⟩, ?_⟩
        · exact toASCII_all ldh_hostB hch fun c hc _ =>
            lowerByte_class (hostB_alpha _) (List.all_eq_true.1 hl c hc)
        · rw [NW, normW, hb', if_neg Bool.false_ne_true, if_pos hs]
          rcases idna_idem hch with e | e <;> rw [e]
          · exact Or.inl rfl
          · exact Or.inr ⟨rfl, rfl⟩
    · rw [if_neg hs] at h
      cases h
      refine ⟨Or.inl ⟨hb, hc, hl⟩, Or.inl ?_⟩
      rw [normW, hb, if_neg Bool.false_ne_true, if_neg hs]
  · rw [hbr.hasPrefix, if_pos rfl] at h
    by_cases ha : w.all (· < 128) = true
    · rw [if_pos ha] at h
      cases h
      refine ⟨Or.inr hbr.toLower, Or.inl ?_⟩
      rw [normW, hbr.toLower.hasPrefix, if_pos rfl,
        toLowerAscii_all (P := (· < 128)) (fun c hc => by simpa using alpha_ascii hc) ha, if_pos rfl, toLowerAscii_idem]
    · rw [if_neg ha] at h; cases h

/-- what the port operations leave: `fixURL` drops a lone `:` (`trimOpt`), `normalizeURL` and the setters a default port -/
structure PortN (s opt : Bytes) : Prop where
  valid : validOptionalPort opt = true
  noLone : opt ≠ [58]
  num : opt.drop 1 = [] ∨ ∃ n, atoi (opt.drop 1) = some n ∧ isDefaultURLPort s n = false

theorem PortN.nil {s : Bytes} : PortN s [] := ⟨rfl, by decide, Or.inl rfl⟩

theorem PortN.trim {s opt : Bytes} (h : PortN s opt) : trimOpt opt = opt := if_neg h.noLone

/-- stated with `w ++ []`: the case `opt' = []` of the `host := w ++ opt'` its users have to show -/
theorem Split.clear {u : URL} {w opt : Bytes} (h : Split u.host w opt) : clearURLPort u = { u with host := w ++ [] } := by
  rw [clearURLPort, h.hostWithoutPort, List.append_nil]

theorem Split.dropDefault {u : URL} {w opt : Bytes} (h : Split u.host w opt) (ht : opt ≠ [58])
    (hnum : opt.drop 1 = [] ∨ ∃ n, atoi (opt.drop 1) = some n) :
    ∃ opt', dropDefaultPort u = { u with host := w ++ opt' } ∧ PortN u.scheme opt' := by
  rcases dropDefaultPort_cases u with e | ⟨e, hd⟩ <;> rw [e]
  · exact ⟨[], h.clear, .nil⟩
  · rw [h.port] at hd
    exact ⟨opt, by rw [← h.eq], h.valid, ht, hnum.imp_right fun ⟨n, ha⟩ => ⟨n, ha, hd n ha⟩⟩

theorem Split.norm {u : URL} {w opt : Bytes} (h : Split u.host w opt) :
    ∃ opt', normPort u = { u with host := w ++ opt' } ∧ validOptionalPort opt' = true ∧
      PortN u.scheme (trimOpt opt') := by
  rcases normPort_cases u with e | ⟨e, hp⟩ <;> rw [e]
  · exact ⟨[], h.clear, rfl, .nil⟩
  · rw [h.port] at hp
    exact ⟨opt, by rw [← h.eq], h.valid, trimOpt_valid h.valid, trimOpt_ne opt, (trimOpt_drop opt).symm ▸ hp⟩

theorem Split.setPort {u : URL} {w opt : Bytes} (h : Split u.host w opt) (hp : PortN u.scheme opt) (v : PortArg) :
    ∃ opt', setURLPort u v = { u with host := w ++ opt' } ∧ PortN u.scheme opt' := by
  rcases setURLPort_cases u v with e | e | ⟨n, hn, hd, e⟩ <;> rw [e]
  · exact ⟨opt, by rw [← h.eq], hp⟩
  · exact ⟨[], h.clear, .nil⟩
  · have ha := atoi_itoa n (by omega)
    exact ⟨58 :: itoa n, by rw [h.hostWithoutPort], by rw [validOptionalPort_cons]; exact (atoi_digits ha).1,
      fun e => (atoi_digits ha).2 (List.cons.inj e).2, Or.inr ⟨n, ha, hd⟩⟩

/-- the host of a reachable URL (`hostOK_reach`) -/
def HostOK (s h : Bytes) : Prop := ∃ w opt, Split h w opt ∧ NW s w ∧ PortN s opt

/-- what the getters then show: `HostIsHostnamePort` and `DefaultPortHidden` -/
theorem HostOK.obs {u : URL} (h : HostOK u.scheme u.host) :
    u.host = hostWithoutPort u ++ (if u.port = [] then [] else 58 :: u.port) ∧
    (u.port = [] ∨ ∃ n, atoi u.port = some n ∧ isDefaultURLPort u.scheme n = false) := by
  obtain ⟨w, opt, hs, _, ho⟩ := h
  rw [hs.hostWithoutPort, hs.port]
  refine ⟨?_, ho.num⟩
  rw [hs.eq, ← withPort_eq ho.valid ho.noLone w]
  generalize opt.drop 1 = p
  cases p <;> simp

/-- the fields `colons`, `port` and `hostFix` of `NormOK` -/
theorem hostOK_normOK {u : URL} (h : HostOK u.scheme u.host) :
    validHostColons u = true ∧
    (u.port = [] ∨ ∃ n, atoi u.port = some n ∧ isDefaultURLPort u.scheme n = false) ∧
    (fixHost u.scheme u.host = .ok u.host ∨ fixHost u.scheme u.host = .error .noclaim) := by
  have ⟨w, opt, hs, hn, ho⟩ := h
  refine ⟨?_, h.obs.2, ?_⟩
  · rw [validHostColons_eq, ← hostWithoutPort_eq, hs.hostWithoutPort]
    rcases hs.pw with ⟨hb, hc, _⟩ | hb
    · simp [hb, hc]
    · rw [hb.hasPrefix]; rfl
  · rw [fixHost_split _ hs, ho.trim, hs.eq]
    rcases hn with e | ⟨_, e⟩ <;> rw [e]
    · exact Or.inl rfl
    · exact Or.inr rfl

/-- `NW` is needed for a bracketed host: it is ASCII, or `fixURL` would not have kept it -/
theorem hostOK_parse {s h : Bytes} (hh : HostOK s h) : parseHost (Net.escape .host h) = some h := by
  obtain ⟨w, opt, ⟨rfl, hp, ho⟩, hn, _⟩ := hh
  rcases hp with ⟨hb, hc, hl⟩ | hb
  · exact parseHost_escape_plain hb hc hl ho
  · exact parseHost_escape_bracketed hb (hn.ascii hb.hasPrefix) ho

theorem fixURL_split {u u' : URL} {w opt : Bytes} (h : fixURL u = .ok u') (hs : Split u.host w opt) :
    ∃ w', Split u'.host w' (trimOpt opt) ∧ NW u.scheme w' ∧ u'.scheme = u.scheme := by
  obtain ⟨h', hf, rfl⟩ := fixURL_ok h
  rw [fixHost_split _ hs] at hf
  cases hn : normW u.scheme w with
  | error e => rw [hn] at hf; cases hf
  | ok w' =>
    rw [hn] at hf
    cases hf
    obtain ⟨hp', hn'⟩ := normW_ok hn hs.pw
    obtain ⟨_, e⟩ := fixRawQuery_shape { u with path := cleanPath u.path u.scheme, host := w' ++ trimOpt opt }
    rw [e]
    exact ⟨w', ⟨rfl, hp', trimOpt_valid hs.valid⟩, hn', rfl⟩

/-- `fixURL`, then `dropDefaultPort`: what the `host` and `protocol` setters do -/
theorem fixURL_drop_hostOK {u u1 : URL} {w opt : Bytes} (h : fixURL u = .ok u1) (hs : Split u.host w opt)
    (hnum : opt.drop 1 = [] ∨ ∃ n, atoi (opt.drop 1) = some n) :
    HostOK (dropDefaultPort u1).scheme (dropDefaultPort u1).host := by
  obtain ⟨w', hs', hn', e'⟩ := fixURL_split h hs
  obtain ⟨opt', e, ho'⟩ := hs'.dropDefault (trimOpt_ne opt) ((trimOpt_drop opt).symm ▸ hnum)
  rw [e]
  exact ⟨w', opt', ⟨rfl, hs'.pw, ho'.valid⟩, e' ▸ hn', ho'⟩

theorem normalizeURL_hostOK {v u' : URL} (h : normalizeURL v = .ok u') (hi : ∃ b, parseHost b = some v.host) :
    HostOK u'.scheme u'.host := by
  obtain ⟨hv, hf⟩ := normalizeURL_ok h
  obtain ⟨b, hb⟩ := hi
  obtain ⟨w, opt, hs⟩ := parseHost_split hb hv
  obtain ⟨opt', e', ho', hpn⟩ := hs.norm
  rw [e'] at hf
  obtain ⟨w', hs', hn', es⟩ := fixURL_split hf ⟨rfl, hs.pw, ho'⟩
  rw [es]; exact ⟨w', _, hs', hn', hpn⟩

theorem built_hostOK {u : URL} (h : Built u) : HostOK u.scheme u.host := by
  induction h with
  | parsed hp _ hn => exact normalizeURL_hostOK hn (Parse_host hp)
  | resolved _ hr hs hn ih =>
    refine normalizeURL_hostOK hn ?_
    dsimp only
    -- the host is the reference's, the base's, or empty
    rcases (resolveReference_rel hs rfl).2 with ⟨-, ⟨e, -⟩ | ⟨e, -⟩⟩ | ⟨e, -⟩
    · rw [e]; exact Parse_host hr
    · rw [e]; exact ⟨_, hostOK_parse ih⟩
    · rw [e]; exact ⟨[], parseHost_nil⟩

theorem validHost_ok {scheme host : Bytes} (h : validHost scheme host = .ok true) :
    ∃ p, ParseRequestURI (scheme ++ [58, 47, 47] ++ host) = some p ∧ p.host = host ∧ validHostColons p = true ∧
      (p.port = [] ∨ ∃ n, atoi p.port = some n ∧ n ≤ 65535) := by
  unfold validHost at h
  cases hp : ParseRequestURI (scheme ++ [58, 47, 47] ++ host) with
  | none => rw [hp] at h; cases h
  | some p =>
    rw [hp] at h
    refine ⟨p, rfl, ?_⟩
    simp -zeta only [] at h
    by_cases hc : (p.host != host || p.user.isSome || p.path != [] || p.rawQuery != [] || p.fragment != []) = true
    · rw [if_pos hc] at h; cases h
    rw [if_neg hc] at h
    by_cases hv : (!validHostColons p) = true
    · rw [if_pos hv] at h; cases h
    rw [if_neg hv] at h
    simp only [Bool.or_eq_true, bne_iff_ne, ne_eq, not_or, Decidable.not_not] at hc
    refine ⟨hc.1.1.1.1, by simpa using hv, (Classical.em _).imp_right fun hpn => ?_⟩
    -- every branch of the IDNA check throws or hands a flag to the port test `jp`, which is kept folded
    extract_lets jp at h
    have hk : ∃ b : Bool, jp b = .ok true := by
      split at h
      · split at h
        · exact ⟨false, h⟩
        · split at h
          · split at h
            · cases h
            · exact ⟨false, h⟩
            · exact ⟨true, h⟩
          · exact ⟨true, h⟩
      · exact ⟨true, h⟩
    obtain ⟨b, hb⟩ := hk
    cases b with
    | false => cases hb
    | true =>
      have hpn' : (p.port != []) = true := by simpa using hpn
      simp only [jp, Bool.not_true, Bool.false_eq_true, if_false, hpn', if_true] at hb
      cases ha : atoi p.port with
      | none => rw [ha] at hb; cases hb
      | some n =>
        rw [ha] at hb
        simp only [pure, Except.pure, Except.ok.injEq, decide_eq_true_eq] at hb
        exact ⟨n, rfl, hb⟩

theorem validHost_split {s h : Bytes} (hv : validHost s h = .ok true) :
    ∃ w opt, Split h w opt ∧ (opt.drop 1 = [] ∨ ∃ n, atoi (opt.drop 1) = some n) := by
  obtain ⟨p, hp, rfl, hvc, hnum⟩ := validHost_ok hv
  obtain ⟨b, hb⟩ := parse_host hp
  obtain ⟨w, opt, hs⟩ := parseHost_split hb hvc
  rw [hs.port] at hnum
  exact ⟨w, opt, hs, hnum.imp_right fun ⟨n, ha, _⟩ => ⟨n, ha⟩⟩

theorem hostOK_move {u u' : URL} (hi : HostOK u.scheme u.host) (h : UMove u u') : HostOK u'.scheme u'.host := by
  have ⟨w, opt, hs, hn, ho⟩ := hi
  cases h with
  | pathname | user | hash | query => exact hi
  | port v =>
    obtain ⟨opt', e, ho'⟩ := hs.setPort ho v
    rw [e]; exact ⟨w, opt', ⟨rfl, hs.pw, ho'.valid⟩, hn, ho'⟩
  | host h u1 hv hf =>
    obtain ⟨w1, opt1, hs1, hnum⟩ := validHost_split hv
    exact fixURL_drop_hostOK hf hs1 hnum
  | protocol v u1 _ _ hf => exact fixURL_drop_hostOK hf hs (ho.num.imp_right fun ⟨n, ha, _⟩ => ⟨n, ha⟩)
  | hostname h _ hc hv hf =>
    obtain ⟨w1, opt1, hs1, _⟩ := validHost_split hv
    -- the accepted hostname has no `:`, so it has no port of its own; the old port is put behind it
    have hp : PW h := by
      rcases validOptionalPort_cases hs1.valid with e1 | ⟨ds, e1, _⟩
      · rw [hs1.eq, e1, List.append_nil]; exact hs1.pw
      · rw [hs1.eq, e1] at hc; simp at hc
    obtain ⟨w', hs', hn', e'⟩ := fixURL_split (w := h) (opt := opt) hf
      ⟨by rw [hs.port]; exact withPort_eq ho.valid ho.noLone h, hp, ho.valid⟩
    rw [ho.trim] at hs'
    rw [e']; exact ⟨w', opt, hs', hn', ho⟩

theorem hostOK_reach {st : St} (h : Reach st) : HostOK st.url.scheme st.url.host :=
  h.url_induct built_hostOK hostOK_move

end GN.Url.Obj
