import GN.Url.ObjSpec
import GN.Url.ParamsLemmas2
import GN.Url.NetLemmas

/-!
# C13: what `step` and `construct` do to the URL, and the invariants of reachable states

Each statement of `GN/Url/ObjSpec.lean` about reachable states comes from an invariant (the statements themselves are
proved in `GN/Props/C13.lean`; only `escapeRoundTrip` is proved here).  An invariant of the URL alone needs two things
(`Reach.url_induct`): it holds of what the constructor builds (`Built`) and it survives every change an operation can
make (`UMove`); `step` and `construct` are taken apart once, in `step_url` and `construct_built`.  The host invariant
(`GN/Url/HostOK.lean`) is proved that way.  `QInv` also speaks of the searchParams list and has its own induction.
The percent-encoding round trip is the instance "same plain mode on both sides" of `Net.unescape_escByte_of`.
-/

namespace GN.Url.Obj
open GN GN.Url GN.Url.Net

/-- a byte `escapeQuery` copies -/
def qsafe (c : UInt8) : Bool := !(c > 127 || !safeQuery c)

theorem pct_qsafe (c : UInt8) : [37, upperHexDigit (c >>> 4), upperHexDigit (c &&& 15)].all qsafe = true := by
  have hd : ∀ x : UInt8, isHex x = true → qsafe x = true := by decide +kernel
  obtain ⟨h1, h2, -⟩ := hex_roundtrip c
  simp only [List.all_cons, List.all_nil, Bool.and_true, hd _ h1, hd _ h2]
  decide

theorem escapeQuery_of_all_qsafe {s : Bytes} (h : s.all qsafe = true) : escapeQuery s = s :=
  flatMap_eq_self fun c hc => if_neg (by simpa [qsafe] using List.all_eq_true.1 h c hc)

theorem escapeQuery_all_qsafe (s : Bytes) : (escapeQuery s).all qsafe = true := by
  rw [escapeQuery, List.all_flatMap, List.all_eq_true]
  intro c _
  split
  · exact pct_qsafe c
  · next h => simpa [qsafe] using h

theorem escapeQuery_idem (q : Bytes) : escapeQuery (escapeQuery q) = escapeQuery q :=
  escapeQuery_of_all_qsafe (escapeQuery_all_qsafe q)

theorem getD_of_all_zip {α β : Type} (f : α → β → Bool) (a : α) (b : β) (hd : f a b = true) :
    ∀ (l₁ : List α) (l₂ : List β), l₁.length = l₂.length → (l₁.zip l₂).all (fun p => f p.1 p.2) = true →
      ∀ i, f (l₁.getD i a) (l₂.getD i b) = true
  | [], [], _, _, _ => hd
  | x :: l₁, y :: l₂, hl, h, i => by
    rw [List.zip_cons_cons, List.all_cons, Bool.and_eq_true] at h
    cases i with
    | zero => exact h.1
    | succ i => exact getD_of_all_zip f a b hd l₁ l₂ (Nat.succ.inj hl) h.2 i

/-- the two generated tables are compared entry by entry -/
theorem safeParam_qsafe {c : UInt8} (h : ¬(c > 127 || !safeParam c) = true) : qsafe c = true := by
  have := getD_of_all_zip (fun a b => a == 0 || b != 0) 0 0 rfl Generated.tblEscapeURLQueryParam
    Generated.tblEscapeURLQuery (by decide +kernel) (by decide +kernel) c.toNat
  rw [Bool.not_eq_true, Bool.or_eq_false_iff, Bool.not_eq_false'] at h
  unfold qsafe safeQuery
  unfold safeParam at h
  rw [h.1]
  simp only [Bool.or_eq_true, beq_iff_eq, bne_iff_ne] at this h
  rcases this with e | e
  · exact absurd e h.2
  · simpa using e

theorem escapeParam_all_qsafe (s : Bytes) : (Url.escape safeParam s).all qsafe = true := by
  rw [Url.escape, List.all_flatMap, List.all_eq_true]
  intro c _
  unfold Url.escByte
  split
  · decide
  · split
    · exact pct_qsafe c
    · next h => rw [List.all_cons, safeParam_qsafe h]; rfl

theorem serializePair_all_qsafe (p : Pair) : (serializePair p).all qsafe = true := by
  unfold serializePair
  simp only [List.all_append, escapeParam_all_qsafe, Bool.true_and, Bool.and_true]
  decide

theorem serialize_all_qsafe : ∀ l : Params, (serialize l).all qsafe = true
  | [] => rfl
  | [p] => by simp only [serialize]; exact serializePair_all_qsafe p
  | p :: q :: ps => by
    rw [serialize_cons_cons]
    have h38 : qsafe 38 = true := by decide
    simp only [List.all_append, List.all_cons, serializePair_all_qsafe, serialize_all_qsafe (q :: ps),
      h38, Bool.and_true]

theorem escapeQuery_serialize (l : Params) : escapeQuery (serialize l) = serialize l :=
  escapeQuery_of_all_qsafe (serialize_all_qsafe l)

theorem sync_sp (st : St) : st.sync.sp = st.sp := by
  unfold St.sync; split <;> try split
  all_goals rfl

theorem sync_cases (st : St) :
    (st.sync = st ∧ ∀ l, st.sp = some l → st.url.rawQuery = [] → l = []) ∨
    (∃ l, st.sp = some l ∧ l ≠ [] ∧ st.url.rawQuery = [] ∧
      st.sync = { st with url := { st.url with rawQuery := serialize l } }) := by
  unfold St.sync
  split
  · next l hl =>
    split
    · next h =>
      simp only [Bool.and_eq_true, decide_eq_true_eq, beq_iff_eq] at h
      exact Or.inr ⟨l, hl, List.length_pos_iff.1 h.1, h.2, rfl⟩
    · next h =>
      simp only [Bool.and_eq_true, decide_eq_true_eq, beq_iff_eq, not_and] at h
      refine Or.inl ⟨rfl, fun l' hl' hq => ?_⟩
      cases hl.symm.trans hl'
      exact Classical.byContradiction fun hne => h (List.length_pos_iff.2 hne) hq
  · next h => exact Or.inl ⟨rfl, fun l hl => by rw [h] at hl; cases hl⟩

theorem sync_idem (st : St) : st.sync.sync = st.sync := by
  rcases sync_cases st with ⟨h, _⟩ | ⟨l, hl, hne, hq, h⟩
  · rw [h, h]
  · rcases sync_cases st.sync with ⟨h', _⟩ | ⟨l', _, _, hq', _⟩
    · exact h'
    · rw [h] at hq'
      simp only at hq'
      rw [serialize_eq_nil_iff] at hq'
      exact absurd hq' hne

/-- the host computed by `fixURL` -/
def fixHost (scheme host : Bytes) : Except Err Bytes :=
  let host1 := trimSuffix host [58]
  if hasPrefix host1 [91] then
    if host1.all (· < 128) then .ok (toLowerAscii host1) else .error .noclaim
  else if isSpecialNetProtocol scheme then
    match Idna.toASCII (splitHostPort host1).1 with
    | .noclaim => .error .noclaim
    | .error => .error .invalidHostname
    | .ok ch =>
      if ch != (splitHostPort host1).1 then
        .ok (if (splitHostPort host1).2 != [] then ch ++ 58 :: (splitHostPort host1).2 else ch)
      else .ok host1
  else .ok host1

theorem fixURL_eq (u : URL) :
    fixURL u = match fixHost u.scheme u.host with
      | .error e => .error e
      | .ok h => .ok (fixRawQuery { u with path := cleanPath u.path u.scheme, host := h }) := by
  unfold fixURL fixHost
  dsimp only [URL.hostname, URL.port]
  cases hasPrefix (trimSuffix u.host [58]) [91]
  · cases isSpecialNetProtocol u.scheme
    · rfl
    · cases Idna.toASCII (splitHostPort (trimSuffix u.host [58])).1 with
      | noclaim => rfl
      | error => rfl
      | ok ch => dsimp only; cases (ch != (splitHostPort (trimSuffix u.host [58])).1) <;> rfl
  · cases (trimSuffix u.host [58]).all (· < 128) <;> rfl

/-- the port handling of `normalizeURL` -/
def normPort (u : URL) : URL :=
  if u.port != [] then
    match atoi u.port with
    | none => clearURLPort u
    | some n => if isDefaultURLPort u.scheme n then clearURLPort u else u
  else u

theorem normalizeURL_eq (u : URL) :
    normalizeURL u =
      if isSpecialNetProtocol u.scheme && u.host == [] && u.path == [] then .error .invalidURL
      else if !validHostColons u then .error .invalidURL
      else fixURL (normPort u) := by
  unfold normalizeURL normPort
  cases (isSpecialNetProtocol u.scheme && u.host == [] && u.path == [])
  · cases (!validHostColons u) <;> rfl
  · rfl

theorem normalizeURL_ok {u u' : URL} (h : normalizeURL u = .ok u') :
    validHostColons u = true ∧ fixURL (normPort u) = .ok u' := by
  rw [normalizeURL_eq] at h
  split at h
  · cases h
  · split at h
    · cases h
    · next h2 => simp at h2; exact ⟨h2, h⟩

theorem specialNet_special {s : Bytes} (h : isSpecialNetProtocol s = true) : isSpecialProtocol s = true := by
  obtain ⟨x, hx, e⟩ := List.any_eq_true.1 h
  exact List.any_eq_true.2 ⟨x, (by decide : ∀ y ∈ Generated.specialNetProtocols, y ∈ Generated.specialProtocols) x hx, e⟩

theorem cleanPath_nil_special {s : Bytes} (h : isSpecialProtocol s = true) : cleanPath [] s = [47] := by
  unfold cleanPath
  rw [h]; rfl

theorem fixHost_nil (s : Bytes) : fixHost s [] = .ok [] := by
  unfold fixHost
  cases isSpecialNetProtocol s <;> rfl

theorem normPort_of_port {u : URL}
    (h : u.port = [] ∨ ∃ n, atoi u.port = some n ∧ isDefaultURLPort u.scheme n = false) : normPort u = u := by
  unfold normPort
  rcases h with h | ⟨n, h1, h2⟩
  · simp [h]
  · split
    · simp [h1, h2]
    · rfl

theorem port_congr {u v : URL} (h : v.host = u.host) : v.port = u.port := by
  unfold URL.port; rw [h]

theorem validHostColons_congr {u v : URL} (h : v.host = u.host) : validHostColons v = validHostColons u := by
  unfold validHostColons hostWithoutPort; rw [port_congr h, h]

theorem fixRawQuery_shape (u : URL) : ∃ q, fixRawQuery u = { u with rawQuery := q } := by
  unfold fixRawQuery
  split
  · exact ⟨_, rfl⟩
  · exact ⟨u.rawQuery, rfl⟩

theorem fixRawQuery_fixed (u : URL) : escapeQuery (fixRawQuery u).rawQuery = (fixRawQuery u).rawQuery := by
  unfold fixRawQuery
  split
  · exact escapeQuery_idem _
  · next h => simp at h; rw [h]; rfl

theorem fixRawQuery_of_fixed {u : URL} (h : escapeQuery u.rawQuery = u.rawQuery) : fixRawQuery u = u := by
  unfold fixRawQuery
  split
  · rw [h]
  · rfl

theorem fixURL_ok {u v : URL} (h : fixURL u = .ok v) :
    ∃ h, fixHost u.scheme u.host = .ok h ∧ v = fixRawQuery { u with path := cleanPath u.path u.scheme, host := h } := by
  rw [fixURL_eq] at h
  split at h
  · cases h
  · next h' hh => cases h; exact ⟨h', hh, rfl⟩

theorem fixURL_shape {u v : URL} (h : fixURL u = .ok v) :
    ∃ h q, v = { u with path := cleanPath u.path u.scheme, host := h, rawQuery := q } := by
  obtain ⟨h', _, e⟩ := fixURL_ok h
  obtain ⟨q, eq⟩ := fixRawQuery_shape { u with path := cleanPath u.path u.scheme, host := h' }
  exact ⟨h', q, e.trans eq⟩

theorem atoi_nil : atoi [] = none := rfl

theorem normPort_cases (u : URL) :
    normPort u = clearURLPort u ∨
    (normPort u = u ∧ (u.port = [] ∨ ∃ n, atoi u.port = some n ∧ isDefaultURLPort u.scheme n = false)) := by
  unfold normPort
  by_cases hp : (u.port != []) = true
  · rw [if_pos hp]
    cases ha : atoi u.port with
    | none => exact Or.inl rfl
    | some n =>
      dsimp only
      cases hdef : isDefaultURLPort u.scheme n with
      | true => exact Or.inl rfl
      | false => exact Or.inr ⟨rfl, Or.inr ⟨n, rfl, hdef⟩⟩
  · rw [if_neg hp]
    exact Or.inr ⟨rfl, Or.inl (by simpa using hp)⟩

theorem dropDefaultPort_cases (u : URL) :
    dropDefaultPort u = clearURLPort u ∨
    (dropDefaultPort u = u ∧ ∀ n, atoi u.port = some n → isDefaultURLPort u.scheme n = false) := by
  unfold dropDefaultPort
  cases ha : atoi u.port with
  | none => exact Or.inr ⟨rfl, fun n hn => by cases hn⟩
  | some n =>
    dsimp only
    cases hdef : isDefaultURLPort u.scheme n with
    | true => exact Or.inl rfl
    | false => exact Or.inr ⟨rfl, fun m hm => by cases hm; exact hdef⟩

theorem normPort_shape (u : URL) : ∃ h, normPort u = { u with host := h } := by
  rcases normPort_cases u with e | ⟨e, _⟩ <;> rw [e]
  · exact ⟨_, rfl⟩
  · exact ⟨u.host, rfl⟩

theorem dropDefaultPort_shape (u : URL) : ∃ h, dropDefaultPort u = { u with host := h } := by
  rcases dropDefaultPort_cases u with e | ⟨e, _⟩ <;> rw [e]
  · exact ⟨_, rfl⟩
  · exact ⟨u.host, rfl⟩

theorem portDigits_bound {s : Bytes} {acc : Int} (h1 : -1 ≤ acc) (h2 : acc ≤ 65535) :
    -1 ≤ portDigits s acc ∧ portDigits s acc ≤ 65535 := by
  induction s generalizing acc with
  | nil => exact ⟨h1, h2⟩
  | cons c t ih =>
    have key : ∀ a' : Int, 0 ≤ a' →
        (-1 ≤ (if a' > 65535 then -1 else portDigits t a') ∧ (if a' > 65535 then -1 else portDigits t a') ≤ 65535) := by
      intro a' h
      split
      · omega
      · exact ih (by omega) (by omega)
    unfold portDigits
    split
    · simp only
      apply key
      split
      · omega
      · next hne =>
        have : acc ≠ -1 := by simpa using hne
        omega
    · exact ⟨h1, h2⟩

theorem valueToURLPort_bound (v : PortArg) : -1 ≤ (valueToURLPort v).1 ∧ (valueToURLPort v).1 ≤ 65535 := by
  unfold valueToURLPort
  split
  · split
    · omega
    · split
      · omega
      · omega
  · split
    · omega
    · split
      · omega
      · split
        · omega
        · exact portDigits_bound (by omega) (by omega)

theorem setURLPort_cases (u : URL) (v : PortArg) :
    setURLPort u v = u ∨ setURLPort u v = clearURLPort u ∨
    ∃ n, n ≤ 65535 ∧ isDefaultURLPort u.scheme n = false ∧
      setURLPort u v = { u with host := hostWithoutPort u ++ 58 :: itoa n } := by
  have hbound := valueToURLPort_bound v
  unfold setURLPort
  by_cases hf : (u.scheme == bytesOf "file") = true
  · rw [if_pos hf]; exact Or.inl rfl
  rw [if_neg hf]
  revert hbound
  rcases valueToURLPort v with ⟨portNum, empty⟩
  intro hbound
  dsimp only at hbound ⊢
  cases empty with
  | true => exact Or.inr (Or.inl rfl)
  | false =>
    rw [if_neg Bool.false_ne_true]
    by_cases h1 : (portNum == -1) = true
    · rw [if_pos h1]; exact Or.inl rfl
    rw [if_neg h1]
    cases hdef : isDefaultURLPort u.scheme portNum.toNat with
    | true => exact Or.inr (Or.inl rfl)
    | false => exact Or.inr (Or.inr ⟨portNum.toNat, by omega, hdef, rfl⟩)

theorem setURLPort_shape (u : URL) (v : PortArg) : ∃ h, setURLPort u v = { u with host := h } := by
  rcases setURLPort_cases u v with e | e | ⟨n, _, _, e⟩ <;> rw [e]
  · exact ⟨u.host, rfl⟩
  · exact ⟨_, rfl⟩
  · exact ⟨_, rfl⟩

theorem normalizeURL_shape {u v : URL} (h : normalizeURL u = .ok v) :
    ∃ h q, v = { u with path := cleanPath u.path u.scheme, host := h, rawQuery := q } := by
  obtain ⟨h', q, e⟩ := fixURL_shape (normalizeURL_ok h).2
  obtain ⟨h0, e0⟩ := normPort_shape u
  rw [e0] at e
  exact ⟨h', q, e⟩

theorem sync_url_shape (st : St) : ∃ q, st.sync.url = { st.url with rawQuery := q } := by
  rcases sync_cases st with ⟨e, _⟩ | ⟨l, _, _, _, e⟩
  · rw [e]; exact ⟨st.url.rawQuery, rfl⟩
  · rw [e]; exact ⟨_, rfl⟩

/-- the common shape of the `host`, `hostname` and `protocol` setters: validate, then `fixURL` -/
theorem guarded_fix {st st' : St} {V : Except Err Bool} {X : URL} {F : URL → St}
    (h : (do if ← V then (do let u ← fixURL X; pure (F u)) else pure st) = .ok st') :
    st' = st ∨ (V = .ok true ∧ ∃ u, fixURL X = .ok u ∧ st' = F u) := by
  cases V with
  | error e => cases h
  | ok b =>
    cases b with
    | false => cases h; exact Or.inl rfl
    | true =>
      cases hf : fixURL X with
      | error e => rw [hf] at h; cases h
      | ok u => rw [hf] at h; cases h; exact Or.inr ⟨rfl, u, rfl, rfl⟩

theorem step_href {st st' : St} {v : Bytes} (h : step st (.set .href v) = .ok st') :
    ∃ u, parseURL v true = .ok u ∧ st' = ({ st with url := u } : St).refreshParams := by
  rw [step] at h
  cases hp : parseURL v true with
  | error e => rw [hp] at h; cases h
  | ok u => rw [hp] at h; cases h; exact ⟨u, rfl, rfl⟩

theorem step_host {st st' : St} {host : Bytes} (h : step st (.set .host host) = .ok st') :
    st' = st ∨ (validHost st.url.scheme host = .ok true ∧
      ∃ u, fixURL { st.url with host := host } = .ok u ∧ st' = { st with url := dropDefaultPort u }) :=
  guarded_fix h

theorem step_hostname {st st' : St} {hn : Bytes} (h : step st (.set .hostname hn) = .ok st') :
    st' = st ∨ (hn.contains 58 = false ∧ validHost st.url.scheme hn = .ok true ∧
      ∃ u, fixURL { st.url with host := if st.url.port != [] then hn ++ 58 :: st.url.port else hn } = .ok u ∧
        st' = { st with url := u }) := by
  change (if hn.contains 58 = true then _ else _) = _ at h
  cases hc : hn.contains 58 with
  | true => rw [hc, if_pos rfl] at h; cases h; exact Or.inl rfl
  | false =>
    rw [hc, if_neg Bool.false_ne_true] at h
    exact (guarded_fix h).imp id fun ⟨a, b⟩ => ⟨rfl, a, b⟩

/-- the scheme a `protocol` assignment would store -/
def protocolScheme (v : Bytes) : Bytes := toLowerAscii (cut v 58).1

theorem step_protocol {st st' : St} {v : Bytes} (h : step st (.set .protocol v) = .ok st') :
    st' = st ∨ ∃ u, (∃ p, ParseRequestURI (protocolScheme v ++ [58, 47, 47] ++ st.url.host) = some p ∧
        p.scheme = protocolScheme v) ∧
      (isSpecialNetProtocol (protocolScheme v) = true → st.url.opaq = []) ∧
      fixURL { st.url with scheme := protocolScheme v } = .ok u ∧ st' = { st with url := dropDefaultPort u } := by
  simp only [step] at h
  by_cases hna : hasNonAscii (cut v 58).fst = true
  · rw [if_pos hna] at h; cases h
  rw [if_neg hna] at h
  cases hpr : ParseRequestURI (toLowerAscii (cut v 58).fst ++ [58, 47, 47] ++ st.url.host) with
  | none => rw [hpr, Bool.and_false, if_neg Bool.false_ne_true] at h; cases h; exact Or.inl rfl
  | some p =>
    simp only [hpr] at h
    by_cases hcond : (isSpecialProtocol st.url.scheme == isSpecialProtocol (toLowerAscii (cut v 58).fst) &&
        p.scheme == toLowerAscii (cut v 58).fst) = true
    · rw [if_pos hcond] at h
      have hps : p.scheme = protocolScheme v := beq_iff_eq.1 (Bool.and_eq_true_iff.1 hcond).2
      -- (the `do` block carries its continuation into both branches of the test)
      by_cases hsn : isSpecialNetProtocol (toLowerAscii (cut v 58).fst) = true
      · rw [if_pos hsn] at h
        rcases guarded_fix h with e | ⟨hw, u, hf, e⟩
        · exact Or.inl e
        · refine Or.inr ⟨u, ⟨p, hpr, hps⟩, fun _ => ?_, hf, e⟩
          by_cases hop : (st.url.opaq == []) = true
          · exact beq_iff_eq.1 hop
          · rw [if_neg hop] at hw; cases hw
      · rw [if_neg hsn] at h
        rcases guarded_fix h with e | ⟨_, u, hf, e⟩
        · exact Or.inl e
        · exact Or.inr ⟨u, ⟨p, hpr, hps⟩, fun hs => absurd hs hsn, hf, e⟩
    · rw [if_neg hcond] at h; cases h; exact Or.inl rfl

theorem parseURL_ok {s : Bytes} {b : Bool} {u : URL} (h : parseURL s b = .ok u) :
    ∃ p, Net.Parse s = some p ∧ (b = true → p.scheme ≠ []) ∧ normalizeURL p = .ok u := by
  unfold parseURL at h
  split at h
  · cases h
  · next p hp =>
    split at h
    · cases h
    · next habs =>
      refine ⟨p, hp, fun hb => ?_, h⟩
      simpa [hb, URL.isAbs] using habs

/-- what `new URL(s)`, `new URL(s, base)` and an `href` assignment build: a parsed absolute URL, normalised, or a
relative reference resolved against such a URL, normalised -/
inductive Built : URL → Prop
  | parsed {s : Bytes} {p u : URL} : Net.Parse s = some p → p.scheme ≠ [] → normalizeURL p = .ok u → Built u
  | resolved {s : Bytes} {base ref u : URL} : Built base → Net.Parse s = some ref → ref.scheme = [] →
      normalizeURL { resolveReference base ref with fragment := ref.fragment, rawFragment := ref.rawFragment } = .ok u →
      Built u

theorem parseURL_built {s : Bytes} {u : URL} (h : parseURL s true = .ok u) : Built u := by
  obtain ⟨p, hp, habs, hn⟩ := parseURL_ok h
  exact .parsed hp (habs rfl) hn

theorem construct_built {s : Bytes} {base : Option Bytes} {u : URL} (h : construct s base = .ok u) : Built u := by
  unfold construct at h
  split at h
  · exact parseURL_built h
  · simp only [bind, Except.bind] at h
    split at h
    · cases h
    · next baseU hb =>
      split at h
      · cases h
      · next ref hr =>
        split at h
        · next habs =>
          obtain ⟨p, hp, _, hn⟩ := parseURL_ok h
          rw [hr] at hp
          cases hp
          exact .parsed hr (by simpa [URL.isAbs] using habs) hn
        · next habs => exact .resolved (parseURL_built hb) hr (by simpa [URL.isAbs] using habs) h

/-- the changes a setter, a searchParams operation or a read can make to the URL (an `href` assignment builds a new
one); a query is only ever replaced by a fixed point of the escaper -/
inductive UMove (u : URL) : URL → Prop
  | protocol (v : Bytes) (u' : URL) :
      (∃ p, ParseRequestURI (protocolScheme v ++ [58, 47, 47] ++ u.host) = some p ∧ p.scheme = protocolScheme v) →
      (isSpecialNetProtocol (protocolScheme v) = true → u.opaq = []) →
      fixURL { u with scheme := protocolScheme v } = .ok u' → UMove u (dropDefaultPort u')
  | host (h : Bytes) (u' : URL) : validHost u.scheme h = .ok true → fixURL { u with host := h } = .ok u' →
      UMove u (dropDefaultPort u')
  | hostname (h : Bytes) (u' : URL) : h.contains 58 = false → validHost u.scheme h = .ok true →
      fixURL { u with host := if u.port != [] then h ++ 58 :: u.port else h } = .ok u' → UMove u u'
  | port (v : PortArg) : UMove u (setURLPort u v)
  | pathname (v : Bytes) : UMove u { u with path := cleanPath v u.scheme }
  | user (x : User) : UMove u { u with user := some x }
  | hash (h : Bytes) : UMove u { u with fragment := h }
  | query (q : Bytes) : escapeQuery q = q → UMove u { u with rawQuery := q }

theorem markUpdated_url (st : St) : st.markUpdated.url = { st.url with rawQuery := [] } := by
  unfold St.markUpdated
  split
  · rfl
  · next h =>
    have : st.url.rawQuery = [] := by simpa using h
    rw [← this]

theorem refreshParams_url (st : St) : st.refreshParams.url = st.url := by
  unfold St.refreshParams; split <;> rfl

theorem step_url {st st' : St} {op : Op} (h : step st op = .ok st') :
    st'.url = st.url ∨ Built st'.url ∨ UMove st.url st'.url := by
  cases op with
  | set p v =>
    cases p with
    | href =>
      obtain ⟨u, hp, rfl⟩ := step_href h
      rw [refreshParams_url]; exact Or.inr (Or.inl (parseURL_built hp))
    | protocol =>
      rcases step_protocol h with e | ⟨u, hp, hop, hf, e⟩
      · exact Or.inl (by rw [e])
      · subst e; exact Or.inr (Or.inr (.protocol v u hp hop hf))
    | host =>
      rcases step_host h with e | ⟨hv, u, hf, e⟩
      · exact Or.inl (by rw [e])
      · subst e; exact Or.inr (Or.inr (.host v u hv hf))
    | hostname =>
      rcases step_hostname h with e | ⟨hc, hv, u, hf, e⟩
      · exact Or.inl (by rw [e])
      · subst e; exact Or.inr (Or.inr (.hostname v u hc hv hf))
    | search =>
      cases h
      have hq := fixRawQuery_fixed { st.url with rawQuery := trimPrefix v [63] }
      obtain ⟨q, e⟩ := fixRawQuery_shape { st.url with rawQuery := trimPrefix v [63] }
      rw [e] at hq
      rw [refreshParams_url, e]
      exact Or.inr (Or.inr (.query q hq))
    | port => cases h; exact Or.inr (Or.inr (.port (u := st.url) (.str v)))
    | pathname => cases h; exact Or.inr (Or.inr (.pathname (u := st.url) v))
    | username => cases h; exact Or.inr (Or.inr (.user (u := st.url) _))
    | password => cases h; exact Or.inr (Or.inr (.user (u := st.url) _))
    | hash => cases h; exact Or.inr (Or.inr (.hash (u := st.url) _))
  | setPort v => cases h; exact Or.inr (Or.inr (.port (u := st.url) v))
  | getSP =>
    simp only [step, pure, Except.pure] at h
    split at h <;> cases h <;> exact Or.inl rfl
  | spAppend k v | spDelete k v | spSet k v | spSort =>
    cases h; rw [markUpdated_url]; exact Or.inr (Or.inr (.query [] rfl))

theorem Reach.url_induct {P : URL → Prop} (built : ∀ {u}, Built u → P u) (move : ∀ {u u'}, P u → UMove u u' → P u')
    {st : St} (h : Reach st) : P st.url := by
  induction h with
  | ctor s base u hc => exact built (construct_built hc)
  | step st st' op _ hs ih =>
    rcases step_url hs with e | hb | hm
    · rw [e]; exact ih
    · exact built hb
    · exact move ih hm
  | read st _ ih =>
    show P st.sync.url
    rcases sync_cases st with ⟨e, _⟩ | ⟨l, _, _, _, e⟩
    · rw [e]; exact ih
    · rw [e]; exact move ih (.query _ (escapeQuery_serialize l))

-- (`rfl` alone first compares `clearURLPort u` with `u`, which computes the host)
theorem clearURLPort_rawQuery (u : URL) : (clearURLPort u).rawQuery = u.rawQuery := by rw [clearURLPort]

theorem normPort_rawQuery (u : URL) : (normPort u).rawQuery = u.rawQuery := by
  obtain ⟨_, e⟩ := normPort_shape u
  rw [e]

theorem dropDefaultPort_rawQuery (u : URL) : (dropDefaultPort u).rawQuery = u.rawQuery := by
  obtain ⟨_, e⟩ := dropDefaultPort_shape u
  rw [e]

theorem setURLPort_rawQuery (u : URL) (v : PortArg) : (setURLPort u v).rawQuery = u.rawQuery := by
  obtain ⟨_, e⟩ := setURLPort_shape u v
  rw [e]

theorem built_query {u : URL} (h : Built u) : escapeQuery u.rawQuery = u.rawQuery := by
  -- `normalizeURL` ends with `fixRawQuery` (about a variable: the resolved URL is a large term)
  have key : ∀ {p : URL}, normalizeURL p = .ok u → escapeQuery u.rawQuery = u.rawQuery := fun hn => by
    obtain ⟨_, _, rfl⟩ := fixURL_ok (normalizeURL_ok hn).2
    exact fixRawQuery_fixed _
  cases h with
  | parsed _ _ hn | resolved _ _ _ hn => exact key hn

/-- the invariant behind `SearchParamsCoherent` -/
def QInv (st : St) : Prop :=
  escapeQuery st.url.rawQuery = st.url.rawQuery ∧
  ∀ l, st.sp = some l → st.url.rawQuery ≠ [] → parseParams st.url.rawQuery = l

theorem qinv_url {st : St} (h : QInv st) {u : URL} (hq : u.rawQuery = st.url.rawQuery) : QInv { st with url := u } := by
  unfold QInv at *
  dsimp only
  rw [hq]; exact h

theorem qinv_refresh {st : St} (h : escapeQuery st.url.rawQuery = st.url.rawQuery) : QInv st.refreshParams := by
  unfold St.refreshParams
  split
  · exact ⟨h, fun l hl _ => Option.some.inj hl⟩
  · next hn => exact ⟨h, fun l hl => by rw [hn] at hl; cases hl⟩

theorem qinv_sync {st : St} (h : QInv st) :
    escapeQuery st.sync.url.rawQuery = st.sync.url.rawQuery ∧
    ∀ l, st.sync.sp = some l → parseParams st.sync.url.rawQuery = l := by
  rcases sync_cases st with ⟨e, hc⟩ | ⟨l, hl, _, _, e⟩ <;> rw [e]
  · refine ⟨h.1, fun l hl => ?_⟩
    by_cases hq : st.url.rawQuery = []
    · rw [hc l hl hq, hq]; rfl
    · exact h.2 l hl hq
  · refine ⟨escapeQuery_serialize l, fun l' hl' => ?_⟩
    cases hl.symm.trans hl'
    exact parseBody_serialize_id l

theorem qinv_step {st st' : St} {op : Op} (hi : QInv st) (h : step st op = .ok st') : QInv st' := by
  have fixed : ∀ {x u : URL}, fixURL x = .ok u → x.rawQuery = st.url.rawQuery → u.rawQuery = st.url.rawQuery := by
    intro x u hf hx
    obtain ⟨_, _, rfl⟩ := fixURL_ok hf
    rw [fixRawQuery_of_fixed (by exact hx ▸ hi.1)]; exact hx
  cases op with
  | set p v =>
    cases p with
    | href =>
      obtain ⟨u, hp, rfl⟩ := step_href h
      exact qinv_refresh (built_query (parseURL_built hp))
    | protocol =>
      rcases step_protocol h with e | ⟨u, _, _, hf, e⟩ <;> subst e
      · exact hi
      · exact qinv_url hi ((dropDefaultPort_rawQuery u).trans (fixed hf rfl))
    | host =>
      rcases step_host h with e | ⟨_, u, hf, e⟩ <;> subst e
      · exact hi
      · exact qinv_url hi ((dropDefaultPort_rawQuery u).trans (fixed hf rfl))
    | hostname =>
      rcases step_hostname h with e | ⟨_, _, u, hf, e⟩ <;> subst e
      · exact hi
      · exact qinv_url hi (fixed hf rfl)
    | search => cases h; exact qinv_refresh (fixRawQuery_fixed _)
    | port => cases h; exact qinv_url hi (setURLPort_rawQuery _ _)
    | username | password | pathname | hash => cases h; exact qinv_url hi rfl
  | setPort v => cases h; exact qinv_url hi (setURLPort_rawQuery _ _)
  | getSP =>
    simp only [step, pure, Except.pure] at h
    split at h <;> cases h
    · exact hi
    · exact ⟨hi.1, fun l hl _ => Option.some.inj hl⟩
  | spAppend k v | spDelete k v | spSet k v | spSort =>
    cases h
    unfold QInv
    rw [markUpdated_url]
    exact ⟨rfl, fun _ _ hne => absurd rfl hne⟩

theorem qinv_reach {st : St} (h : Reach st) : QInv st := by
  induction h with
  | ctor s base u hc => exact ⟨built_query (construct_built hc), fun l hl => by cases hl⟩
  | step st st' op _ hs ih => exact qinv_step ih hs
  | read st _ ih => exact (qinv_sync ih).imp_right fun h l hl _ => h l hl

/-- the modes of `EscapeRoundTrip` -/
def PlainMode (m : Mode) : Prop := m = .path ∨ m = .fragment ∨ m = .userPassword

theorem unescape_escByte (m : Mode) (hm : PlainMode m) (c : UInt8) (rest : Bytes) :
    unescapeOk m (Net.escByte m c ++ rest) = unescapeOk m rest ∧
    unescapeRaw m (Net.escByte m c ++ rest) = c :: unescapeRaw m rest := by
  have ⟨hq, hh, hz, h37⟩ : (m == Mode.queryComponent) = false ∧ (m == Mode.host) = false ∧ (m == Mode.zone) = false ∧
      shouldEscape 37 m = true := by rcases hm with rfl | rfl | rfl <;> exact ⟨rfl, rfl, rfl, rfl⟩
  exact unescape_escByte_of rest hq h37 (fun _ => (litOk_pctOk_of_not_host hh hz _ _).2)
    fun _ => ⟨(litOk_pctOk_of_not_host hh hz c c).1, plusByte_eq hq c⟩

theorem unescape_escape (m : Mode) (hm : PlainMode m) (s : Bytes) :
    unescapeOk m (Net.escape m s) = true ∧ unescapeRaw m (Net.escape m s) = s :=
  unescape_escape_of m m s fun c _ rest => unescape_escByte m hm c rest

theorem escapeRoundTrip : EscapeRoundTrip := by
  intro m s hm
  have := unescape_escape m hm s
  simp [Net.unescape, this.1, this.2]

end GN.Url.Obj
