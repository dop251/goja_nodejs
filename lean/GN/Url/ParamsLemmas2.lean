import GN.Url.ParamsLemmas

/-! C12: the generated escape table satisfies `TableOK`; `parse ∘ serialize = id`; the sort is sorted, a permutation and
stable; `set` refines `setSpec`.  On the way: `splitOn` is `List.splitOn` (the `splitOn_*` lemmas, which IdnaLemmas and
PathLemmas use as well), and the two comparison loops are `<` on lists (`ltBytes_iff`, `ltUnits_iff`). -/

namespace GN.Url
open GN

theorem tableOK_generated : TableOK safeParam := by
  unfold TableOK safeParam; decide

theorem splitOn_eq (sep : UInt8) : ∀ s : Bytes, splitOn sep s = s.splitOn sep
  | [] => rfl
  | c :: cs => by
    rw [splitOn, splitOn_eq sep cs, List.splitOn_cons_eq_if_modifyHead]
    by_cases hc : c = sep
    · rw [if_pos hc, if_pos (beq_iff_eq.2 hc)]
    · rw [if_neg hc, if_neg (mt beq_iff_eq.1 hc)]
      obtain ⟨w, ws, e⟩ := List.exists_cons_of_ne_nil (List.splitOn_ne_nil sep cs)
      rw [e]; rfl

theorem splitOn_no_sep {sep : UInt8} {a : Bytes} (h : sep ∉ a) : splitOn sep a = [a] :=
  (splitOn_eq sep a).trans (List.splitOn_eq_singleton h)

theorem splitOn_append_sep {sep : UInt8} {a b : Bytes} (h : sep ∉ a) :
    splitOn sep (a ++ sep :: b) = a :: splitOn sep b := by
  rw [splitOn_eq, splitOn_eq, List.splitOn_append_cons_self_of_not_mem h]

theorem intercalate_splitOn (sep : UInt8) (s : Bytes) : ([sep] : Bytes).intercalate (splitOn sep s) = s := by
  rw [splitOn_eq]; exact List.intercalate_splitOn sep

theorem splitOn_spec (sep : UInt8) (s : Bytes) :
    ∃ w ws, splitOn sep s = w :: ws ∧ ([sep] : Bytes).intercalate (w :: ws) = s := by
  obtain ⟨w, ws, e⟩ := List.exists_cons_of_ne_nil (splitOn_eq sep s ▸ List.splitOn_ne_nil sep s)
  exact ⟨w, ws, e, e ▸ intercalate_splitOn sep s⟩

theorem splitFirst_append_sep {sep : UInt8} {a : Bytes} (b : Bytes) (h : sep ∉ a) :
    splitFirst sep (a ++ sep :: b) = (a, some b) := by
  induction a with
  | nil => simp [splitFirst]
  | cons c cs ih =>
    simp at h
    have hc : c ≠ sep := fun e => h.1 e.symm
    simp [splitFirst, hc, ih h.2]

/-- the per-segment function of `parse` -/
def parseSeg (v : Bytes) : Option Pair :=
  if v = [] then none
  else match splitFirst 61 v with
    | (n, none) => some ⟨unescape n, []⟩
    | (n, some val) => some ⟨unescape n, unescape val⟩

theorem serializePair_ne_nil (p : Pair) : serializePair p ≠ [] := by
  simp [serializePair]

theorem escapeParam_no_special (s : Bytes) : ∀ b ∈ escape safeParam s, b ≠ 38 ∧ b ≠ 61 ∧ b ≠ 63 :=
  escape_no_special tableOK_generated s

theorem serializePair_no_amp (p : Pair) : (38 : UInt8) ∉ serializePair p := by
  intro hm
  simp only [serializePair, List.mem_append, List.mem_singleton] at hm
  rcases hm with (hm | hm) | hm
  · exact (escapeParam_no_special p.name 38 hm).1 rfl
  · revert hm; decide
  · exact (escapeParam_no_special p.value 38 hm).1 rfl

theorem parseSeg_serializePair (p : Pair) : parseSeg (serializePair p) = some p := by
  unfold parseSeg
  rw [if_neg (serializePair_ne_nil p)]
  have h61 : (61 : UInt8) ∉ escape safeParam p.name := fun hm => (escapeParam_no_special p.name 61 hm).2.1 rfl
  have : serializePair p = escape safeParam p.name ++ 61 :: escape safeParam p.value := by
    simp [serializePair]
  rw [this, splitFirst_append_sep _ h61]
  simp [unescape_escape safeParam tableOK_generated]

theorem serialize_cons_cons (p q : Pair) (ps : Params) :
    serialize (p :: q :: ps) = serializePair p ++ 38 :: serialize (q :: ps) := by
  simp [serialize]

theorem serialize_head (l : Params) : (serialize l).head? ≠ some 63 := by
  have hp : ∀ (p : Pair) (t : Bytes), (serializePair p ++ t).head? ≠ some 63 := by
    intro p t
    cases hn : escape safeParam p.name with
    | nil => simp [serializePair, hn]
    | cons c r =>
      have := (escapeParam_no_special p.name c (by simp [hn])).2.2
      simpa [serializePair, hn] using this
  match l with
  | [] => simp [serialize]
  | [p] => simpa [serialize] using hp p []
  | p :: q :: ps => rw [serialize_cons_cons]; exact hp p _

theorem serialize_eq_nil_iff (l : Params) : serialize l = [] ↔ l = [] := by
  cases l with
  | nil => simp [serialize]
  | cons p ps =>
    cases ps with
    | nil => simp [serialize, serializePair_ne_nil]
    | cons q qs => rw [serialize_cons_cons]; simp

theorem parseSeg_serialize (p : Pair) (ps : Params) :
    (splitOn 38 (serialize (p :: ps))).filterMap parseSeg = p :: ps := by
  induction ps generalizing p with
  | nil =>
    simp only [serialize]
    rw [splitOn_no_sep (serializePair_no_amp p)]
    simp [parseSeg_serializePair]
  | cons q qs ih =>
    rw [serialize_cons_cons, splitOn_append_sep (serializePair_no_amp p)]
    rw [List.filterMap_cons, parseSeg_serializePair, ih q]

theorem parseBody_serialize_id : ∀ l : Params, Url.parseBody (serialize l) = l
  | [] => by decide
  | p :: ps => parseSeg_serialize p ps

theorem ltBytes_iff : ∀ a b : Bytes, ltBytes a b = true ↔ a < b
  | [], [] => by simp [ltBytes]
  | [], _ :: _ => by simp [ltBytes]
  | _ :: _, [] => by simp [ltBytes]
  | x :: a, y :: b => by
    rw [ltBytes, List.cons_lt_cons_iff, ← ltBytes_iff a b]
    split
    · simp [*]
    · split
      · next h1 h2 => have : x ≠ y := fun e => h1 (e ▸ h2); simp [*]
      · next h1 h2 => have : x = y := UInt8.le_antisymm (UInt8.not_lt.1 h2) (UInt8.not_lt.1 h1); simp [*]

theorem ltBytes_eq_false {a b : Bytes} : ltBytes a b = false ↔ b ≤ a := by
  rw [← List.not_lt, ← ltBytes_iff, Bool.not_eq_true]

theorem ltBytes_irrefl (a : Bytes) : ltBytes a a = false := ltBytes_eq_false.2 (List.le_refl a)

theorem ltBytes_asymm : ∀ (a b : Bytes), ltBytes a b = true → ltBytes b a = false :=
  fun a b h => ltBytes_eq_false.2 (List.le_of_lt ((ltBytes_iff a b).1 h))

theorem ltBytes_le_trans : ∀ (a b c : Bytes), ltBytes b a = false → ltBytes c b = false → ltBytes c a = false :=
  fun _ _ _ h1 h2 => ltBytes_eq_false.2 (List.le_trans (ltBytes_eq_false.1 h1) (ltBytes_eq_false.1 h2))

theorem ltBytes_antisymm : ∀ (a b : Bytes), ltBytes a b = false → ltBytes b a = false → a = b :=
  fun _ _ h1 h2 => List.le_antisymm (ltBytes_eq_false.1 h2) (ltBytes_eq_false.1 h1)

theorem ltUnits_iff : ∀ a b : List Nat, ltUnits a b = true ↔ a < b
  | [], [] => by simp [ltUnits]
  | [], _ :: _ => by simp [ltUnits]
  | _ :: _, [] => by simp [ltUnits]
  | x :: a, y :: b => by
    rw [ltUnits, List.cons_lt_cons_iff, ← ltUnits_iff a b]
    split
    · simp [*]
    · split
      · have : x ≠ y := by omega
        simp [*]
      · have : x = y := by omega
        simp [*]

theorem ltUnits_eq_false {a b : List Nat} : ltUnits a b = false ↔ b ≤ a := by
  rw [← List.not_lt, ← ltUnits_iff, Bool.not_eq_true]

theorem ltName_irrefl (a : Bytes) : ltName a a = false := ltUnits_eq_false.2 (List.le_refl _)
theorem ltName_asymm {a b : Bytes} (h : ltName a b = true) : ltName b a = false :=
  ltUnits_eq_false.2 (List.le_of_lt ((ltUnits_iff _ _).1 h))

def leName (p q : Pair) : Prop := ltName q.name p.name = false

theorem leName_trans {p q r : Pair} (h1 : leName p q) (h2 : leName q r) : leName p r :=
  ltUnits_eq_false.2 (List.le_trans (ltUnits_eq_false.1 h1) (ltUnits_eq_false.1 h2))

theorem sortedByName_of_pairwise : ∀ {l : Params}, l.Pairwise leName → SortedByName l
  | [], _ => trivial
  | [_], _ => trivial
  | _ :: q :: _, h =>
    ⟨(List.pairwise_cons.1 h).1 q List.mem_cons_self, sortedByName_of_pairwise (List.pairwise_cons.1 h).2⟩

theorem insertSorted_perm (p : Pair) (l : Params) : (insertSorted p l).Perm (p :: l) := by
  induction l with
  | nil => simp [insertSorted]
  | cons q qs ih =>
    simp only [insertSorted]
    split
    · exact List.Perm.refl _
    · exact ((List.Perm.cons q ih).trans (List.Perm.swap p q qs))

theorem insertSorted_pairwise (p : Pair) {l : Params} (hl : l.Pairwise leName) :
    (insertSorted p l).Pairwise leName := by
  induction l with
  | nil => simp [insertSorted]
  | cons q qs ih =>
    obtain ⟨hq, hqs⟩ := List.pairwise_cons.mp hl
    simp only [insertSorted]
    split
    · next hlt =>
      refine List.pairwise_cons.mpr ⟨?_, hl⟩
      have hpq : leName p q := ltName_asymm hlt
      intro x hx
      rcases List.mem_cons.mp hx with rfl | hx
      · exact hpq
      · exact leName_trans hpq (hq x hx)
    · next hnlt =>
      refine List.pairwise_cons.mpr ⟨?_, ih hqs⟩
      intro x hx
      rcases List.mem_cons.mp ((insertSorted_perm p qs).mem_iff.mp hx) with rfl | hx
      · simpa [leName] using hnlt
      · exact hq x hx

theorem insertSorted_filter (p : Pair) (n : Bytes) {l : Params} (hl : l.Pairwise leName) :
    (insertSorted p l).filter (·.name == n) = l.filter (·.name == n) ++ (if p.name == n then [p] else []) := by
  induction l with
  | nil => rw [insertSorted, List.filter_cons]; rfl
  | cons q qs ih =>
    obtain ⟨hq, hqs⟩ := List.pairwise_cons.mp hl
    rw [insertSorted]
    split
    · next hlt =>
      rw [List.filter_cons]
      split
      · next hpn =>
        -- `p < q ≤ x` for every `x` in `q :: qs`: none of them has the name of `p`
        rw [List.filter_eq_nil_iff.2 fun x hx hxn => ?_]
        · rfl
        · have hqx : leName q x := (List.mem_cons.1 hx).elim (fun e => e ▸ ltName_irrefl _) (hq x)
          rw [leName, eq_of_beq hxn, ← eq_of_beq hpn, hlt] at hqx
          cases hqx
      · rw [List.append_nil]
    · rw [List.filter_cons, ih hqs, List.filter_cons]
      split
      · rfl
      · rfl

theorem foldl_insertSorted (sp : Params) {acc : Params} (h : acc.Pairwise leName) :
    (sp.foldl (fun acc p => insertSorted p acc) acc).Pairwise leName ∧
    (sp.foldl (fun acc p => insertSorted p acc) acc).Perm (sp ++ acc) ∧
    ∀ n : Bytes, (sp.foldl (fun acc p => insertSorted p acc) acc).filter (·.name == n) =
      acc.filter (·.name == n) ++ sp.filter (·.name == n) := by
  induction sp generalizing acc with
  | nil => exact ⟨h, List.Perm.refl _, by simp⟩
  | cons p ps ih =>
    obtain ⟨h1, h2, h3⟩ := ih (insertSorted_pairwise p h)
    refine ⟨h1, (h2.trans ((insertSorted_perm p acc).append_left ps)).trans List.perm_middle, fun n => ?_⟩
    rw [List.foldl_cons, h3, insertSorted_filter p n h, List.filter_cons]
    split <;> simp

theorem setLoop_end {name value : Bytes} {sp : List Pair} {i j : Nat} {found : Bool} (h : ¬ i < sp.length) :
    setLoop name value sp i j found = (sp, j, found) := by
  rw [setLoop]; simp [h]

theorem setLoop_skip {name value : Bytes} {sp : List Pair} {i j : Nat} (h : i < sp.length)
    (hn : sp[i].name = name) :
    setLoop name value sp i j true = setLoop name value sp (i + 1) j true := by
  rw [setLoop]; simp [h, hn]

theorem setLoop_keep {name value : Bytes} {sp : List Pair} {i j : Nat} {found : Bool} (h : i < sp.length)
    (hn : sp[i].name ≠ name) :
    setLoop name value sp i j found =
      setLoop name value (if i ≠ j then sp.set j sp[i] else sp) (i + 1) (j + 1) found := by
  rw [setLoop]; simp [h, hn]

theorem setLoop_true_eq_compact (name value : Bytes) (sp : List Pair) (i j : Nat) :
    setLoop name value sp i j true =
      ((compactLoop (fun p => p.name != name) sp i j).1, (compactLoop (fun p => p.name != name) sp i j).2, true) := by
  fun_induction compactLoop (fun p => p.name != name) sp i j with
  | case1 sp i j h hk ih => rw [setLoop_keep h (by simpa using hk)]; exact ih
  | case2 sp i j h hk ih => rw [setLoop_skip h (by simpa using hk)]; exact ih
  | case3 sp i j h => rw [setLoop_end h]

/-- While nothing has been found, `i = j` and the array is untouched.  The left side is what `set` makes of the loop's
result: the first `j` elements, or the pair appended. -/
theorem setLoop_false_spec (name value : Bytes) (sp : List Pair) (i j : Nat) (found : Bool) (hj : i = j)
    (hf : found = false) (hi : i ≤ sp.length) :
    (if (setLoop name value sp i j found).2.2 then
        (setLoop name value sp i j found).1.take (setLoop name value sp i j found).2.1
      else sp ++ [⟨name, value⟩]) = sp.take i ++ setSpec (sp.drop i) name value := by
  fun_induction setLoop name value sp i j found with
  | case1 => cases hf
  | case2 sp i j found h cur hm _ sp1 sp2 _ =>
    subst hj
    have e : sp2 = sp1 := dif_neg (not_not_intro rfl)
    rw [e, setLoop_true_eq_compact, if_pos rfl,
      compactLoop_spec _ _ _ _ _ rfl (Nat.le_refl _) (by rw [List.length_set]; omega), List.drop_set_of_lt (by omega),
      take_succ_set h, List.drop_eq_getElem_cons h, setSpec, if_pos hm, List.append_assoc]
    rfl
  | case3 sp i j found h cur hm sp2 ih =>
    subst hj
    have e : sp2 = sp := dif_neg (not_not_intro rfl)
    rw [e] at ih ⊢
    rw [ih rfl hf (by omega), List.drop_eq_getElem_cons h, setSpec, if_neg hm, List.take_succ_eq_append_getElem h,
      List.append_assoc]
    rfl
  | case4 sp i j found h =>
    rw [hf, if_neg Bool.false_ne_true, List.drop_eq_nil_of_le (by omega), List.take_of_length_le (by omega)]
    rfl

end GN.Url
