import GN.Url.Params
import GN.DecideBytes

/-! Helper lemmas for C12: the compaction loop of `delete` refines `List.filter`; percent-encoding round trip. -/

namespace GN.Url
open GN

theorem compact_step_keep (keep : Pair → Bool) (sp : List Pair) (i j : Nat) (h : i < sp.length) (hk : keep sp[i] = true) :
    compactLoop keep sp i j = compactLoop keep (if i ≠ j then sp.set j sp[i] else sp) (i + 1) (j + 1) := by
  rw [compactLoop, dif_pos h, if_pos hk]

theorem compact_step_drop (keep : Pair → Bool) (sp : List Pair) (i j : Nat) (h : i < sp.length) (hk : keep sp[i] = false) :
    compactLoop keep sp i j = compactLoop keep sp (i + 1) j := by
  rw [compactLoop, dif_pos h, if_neg (ne_true_of_eq_false hk)]

theorem compact_step_end (keep : Pair → Bool) (sp : List Pair) (i j : Nat) (h : ¬ i < sp.length) :
    compactLoop keep sp i j = (sp, j) := by
  rw [compactLoop, dif_neg h]

/-- the guarded write `if i != j { sp[j] = v }` is the plain write: for `i = j` it stores what is there already -/
theorem set_guard {sp : List Pair} {i : Nat} (j : Nat) (h : i < sp.length) :
    (if i ≠ j then sp.set j sp[i] else sp) = sp.set j sp[i] := by
  split
  · rfl
  · next e => rw [← Decidable.not_not.1 e, List.set_getElem_self]

theorem take_succ_set {α : Type} {l : List α} {j : Nat} {a : α} (h : j < l.length) :
    (l.set j a).take (j + 1) = l.take j ++ [a] := by
  rw [List.take_add_one, List.take_set_of_le (Nat.le_refl j), List.getElem?_set_self h]
  rfl

/-- The loop keeps `sp[:j]` as the output so far and reads only `sp[i:]`, which no write (at `j ≤ i`) has changed.
The length `n` of the unread part is not needed: the induction is the loop's own. -/
theorem compactLoop_spec (keep : Pair → Bool) (n : Nat) : ∀ (sp : List Pair) (i j : Nat),
    sp.length - i = n → j ≤ i → i ≤ sp.length →
    ((compactLoop keep sp i j).1.take (compactLoop keep sp i j).2) = sp.take j ++ (sp.drop i).filter keep := by
  rintro sp i j - hji hi
  fun_induction compactLoop keep sp i j with
  | case1 sp i j h hk ih =>
    rw [dite_eq_ite, set_guard j h] at ih
    rw [set_guard j h, ih (by omega) (by rw [List.length_set]; omega), List.drop_set_of_lt (by omega),
      take_succ_set (by omega), List.drop_eq_getElem_cons h, List.filter_cons_of_pos hk, List.append_assoc]
    rfl
  | case2 sp i j h hk ih =>
    rw [ih (by omega) (by omega), List.drop_eq_getElem_cons h, List.filter_cons_of_neg hk]
  | case3 sp i j h => rw [List.drop_eq_nil_of_le (by omega), List.filter_nil, List.append_nil]

theorem deleteWith_eq_filter (keep : Pair → Bool) (sp : Params) : deleteWith keep sp = sp.filter keep := by
  unfold deleteWith
  have := compactLoop_spec keep (sp.length - 0) sp 0 0 rfl (Nat.le_refl 0) (Nat.zero_le _)
  simpa using this

theorem upperHexDigit_spec : ∀ {n : UInt8}, n < 16 → isHex (upperHexDigit n) = true ∧ unhex (upperHexDigit n) = n ∧
    upperHexDigit n ≠ 38 ∧ upperHexDigit n ≠ 61 ∧ upperHexDigit n ≠ 63 := by decide +kernel

theorem nibbles : ∀ c : UInt8, c >>> 4 < 16 ∧ c &&& 15 < 16 ∧ (c >>> 4) <<< 4 ||| (c &&& 15) = c := by decide +kernel

theorem hex_roundtrip (c : UInt8) :
    isHex (upperHexDigit (c >>> 4)) = true ∧ isHex (upperHexDigit (c &&& 15)) = true ∧
    (unhex (upperHexDigit (c >>> 4)) <<< 4 ||| unhex (upperHexDigit (c &&& 15))) = c := by
  obtain ⟨h1, h2, h3⟩ := nibbles c
  obtain ⟨a1, a2, -⟩ := upperHexDigit_spec h1
  obtain ⟨b1, b2, -⟩ := upperHexDigit_spec h2
  exact ⟨a1, b1, by rw [a2, b2, h3]⟩

def hexOK (c : UInt8) : Bool :=
    isHex (upperHexDigit (c >>> 4)) && isHex (upperHexDigit (c &&& 15)) &&
    (unhex (upperHexDigit (c >>> 4)) <<< 4 ||| unhex (upperHexDigit (c &&& 15))) == c &&
    upperHexDigit (c >>> 4) != 38 && upperHexDigit (c >>> 4) != 61 &&
    upperHexDigit (c &&& 15) != 38 && upperHexDigit (c &&& 15) != 61

theorem hexOK_fin : ∀ n : Fin 256, hexOK (UInt8.ofNat n.val) = true := by
  intro n
  generalize UInt8.ofNat n.val = c
  obtain ⟨h1, h2, -⟩ := nibbles c
  obtain ⟨r1, r2, r3⟩ := hex_roundtrip c
  obtain ⟨-, -, a1, a2, -⟩ := upperHexDigit_spec h1
  obtain ⟨-, -, b1, b2, -⟩ := upperHexDigit_spec h2
  simp [hexOK, *]

/-- what the escape table must satisfy: the characters the parser treats specially are never copied literally -/
def TableOK (safe : UInt8 → Bool) : Prop :=
  safe 37 = false ∧ safe 43 = false ∧ safe 38 = false ∧ safe 61 = false ∧ safe 63 = false

theorem TableOK.ne {safe : UInt8 → Bool} (h : TableOK safe) {c : UInt8} (hs : ¬(c > 127 || !safe c) = true) :
    c ≠ 37 ∧ c ≠ 43 ∧ c ≠ 38 ∧ c ≠ 61 ∧ c ≠ 63 := by
  have hs : c ≤ 127 ∧ safe c = true := by simpa using hs
  have ne : ∀ d, safe d = false → c ≠ d := fun d hd e => by rw [e, hd] at hs; cases hs.2
  exact ⟨ne _ h.1, ne _ h.2.1, ne _ h.2.2.1, ne _ h.2.2.2.1, ne _ h.2.2.2.2⟩

theorem unescape_pct {a b : UInt8} (rest : Bytes) (ha : isHex a = true) (hb : isHex b = true) :
    unescape (37 :: a :: b :: rest) = (unhex a <<< 4 ||| unhex b) :: unescape rest := by
  rw [unescape, ha, hb]
  rfl

theorem unescape_escByte (safe : UInt8 → Bool) (h : TableOK safe) (c : UInt8) (rest : Bytes) :
    unescape (escByte safe c ++ rest) = c :: unescape rest := by
  unfold escByte
  split
  · next hc => rw [hc]; exact unescape.eq_3 rest
  · split
    · obtain ⟨ha, hb, e⟩ := hex_roundtrip c
      exact (unescape_pct rest ha hb).trans (by rw [e])
    · next hs =>
      obtain ⟨h37, h43, -⟩ := h.ne hs
      exact unescape.eq_4 c rest (fun _ _ _ e _ => h37 e) h43

theorem unescape_escape (safe : UInt8 → Bool) (h : TableOK safe) (s : Bytes) :
    unescape (escape safe s) = s := by
  induction s with
  | nil => simp [escape, unescape]
  | cons c cs ih =>
    simp only [escape, List.flatMap_cons] at *
    rw [unescape_escByte safe h, ih]

theorem escByte_no_special {safe : UInt8 → Bool} (h : TableOK safe) {c : UInt8} :
    ∀ b ∈ escByte safe c, b ≠ 38 ∧ b ≠ 61 ∧ b ≠ 63 := by
  unfold escByte
  split
  · intro b hb
    rw [List.mem_singleton.1 hb]
    decide
  · split
    · obtain ⟨h1, h2, -⟩ := nibbles c
      intro b hb
      simp only [List.mem_cons, List.not_mem_nil, or_false] at hb
      rcases hb with rfl | rfl | rfl
      · decide
      · exact (upperHexDigit_spec h1).2.2
      · exact (upperHexDigit_spec h2).2.2
    · next hs =>
      intro b hb
      rw [List.mem_singleton.1 hb]
      exact (h.ne hs).2.2

theorem escape_no_special {safe : UInt8 → Bool} (h : TableOK safe) (s : Bytes) :
    ∀ b ∈ escape safe s, b ≠ 38 ∧ b ≠ 61 ∧ b ≠ 63 := by
  intro b hb
  simp only [escape, List.mem_flatMap] at hb
  obtain ⟨c, _, hc⟩ := hb
  exact escByte_no_special h b hc

end GN.Url
