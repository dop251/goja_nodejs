import GN.Url.ReparseSpec
import GN.Url.ObjLemmas

/-!
# C13: what `Parse` makes of an `href`, and that it prints the same `href` again

`URL.String` writes `scheme:` `bodyStr` `qStr` `fStr` (`str_eq`), and each piece is a string of one byte class
(`validEncoded` for its mode, `schemeTail`, `qsafe`) to which the delimiter `Parse` looks for next does not belong: one
evaluation of the class at that delimiter (`Net.not_mem_of_all`).  So under the layout conditions `Lay u`, `Parse u.str` is
`reparse u`: `u` with the raw forms recomputed (`reread`) and, next to an opaque part, without what is not printed
(`opaqueOnly`).  It prints the same `href`, and under the normal-form conditions `NormOK u` `normalizeURL` changes nothing
that is printed.
-/

namespace GN.Url.Obj
open GN GN.Url GN.Url.Net

def schemeTail (c : UInt8) : Bool := isAlpha c || isDigit c || c == 43 || c == 45 || c == 46

theorem ctl_rejected : ∀ c : UInt8, (c < 32 || c == 127) = true →
    encB .path c = false ∧ encB .fragment c = false ∧ encB .userPassword c = false ∧ encB .host c = false ∧
    qsafe c = false ∧ schemeTail c = false := by decide +kernel

theorem validUserinfo_of_escB : ∀ {c : UInt8}, escB .userPassword c = true → validUserinfo [c] = true := by decide +kernel

/-- `EscapedPath` and `EscapedFragment`, as one function of the mode -/
def escd (m : Mode) (raw dec : Bytes) : Bytes :=
  if raw != [] && validEncoded raw m && Net.unescape m raw == some dec then raw else Net.escape m dec

/-- the raw form `setPath` and `setFragment` keep next to the decoded one -/
def rawOf (m : Mode) (e dec : Bytes) : Bytes := if e == Net.escape m dec then [] else e

theorem escapedFragment_eq (u : URL) : u.escapedFragment = escd .fragment u.rawFragment u.fragment := rfl

theorem escapedPath_eq (u : URL) (hstar : u.path ≠ [42]) : u.escapedPath = escd .path u.rawPath u.path := by
  have : (u.path == [42]) = false := by simpa using hstar
  unfold URL.escapedPath escd
  rw [this]; rfl

theorem escd_cases (m : Mode) (raw dec : Bytes) :
    (escd m raw dec = raw ∧ raw ≠ [] ∧ validEncoded raw m = true ∧ Net.unescape m raw = some dec) ∨
    escd m raw dec = Net.escape m dec := by
  unfold escd
  split
  · next h =>
    simp only [Bool.and_eq_true, bne_iff_ne, ne_eq, beq_iff_eq] at h
    exact Or.inl ⟨rfl, h.1.1, h.1.2, h.2⟩
  · exact Or.inr rfl

theorem unescape_escd {m : Mode} (hm : PlainMode m) (raw dec : Bytes) : Net.unescape m (escd m raw dec) = some dec := by
  rcases escd_cases m raw dec with ⟨e, -, -, h⟩ | e
  · rw [e, h]
  · rw [e, escapeRoundTrip m _ hm]

theorem validEncoded_escd (m : Mode) (raw dec : Bytes) : validEncoded (escd m raw dec) m = true := by
  rcases escd_cases m raw dec with ⟨e, -, h, -⟩ | e
  · rw [e, h]
  · rw [e, validEncoded_escape]

theorem escapedFragment_all (u : URL) :
    u.escapedFragment.all (fun c => c != 35 && !(c < 32 || c == 127)) = true := by
  have h := validEncoded_escd .fragment u.rawFragment u.fragment
  rw [validEncoded_eq, List.all_eq_true] at h
  rw [List.all_eq_true]
  intro c hc
  have hB := h c hc
  cases hctl : (c < 32 || c == 127) with
  | true => rw [(ctl_rejected c hctl).2.1] at hB; cases hB
  | false =>
    have : c ≠ 35 := fun e => by subst e; revert hB; decide
    simpa using this

theorem escd_eq_nil {m : Mode} (hm : PlainMode m) {raw dec : Bytes} : escd m raw dec = [] ↔ dec = [] := by
  have h := (unescape_some (unescape_escd hm raw dec)).2
  constructor
  · intro e; rw [h, e]; rfl
  · intro e; subst e; exact unescapeRaw_eq_nil h.symm

theorem rawOf_nil (m : Mode) (dec : Bytes) : rawOf m [] dec = [] := by
  unfold rawOf; split <;> rfl

theorem escd_rawOf (m : Mode) (raw dec : Bytes) : escd m (rawOf m (escd m raw dec) dec) dec = escd m raw dec := by
  unfold rawOf
  split
  · next h => rw [beq_iff_eq] at h; rw [h]; rfl
  · next h =>
    rcases escd_cases m raw dec with ⟨e, hne, hv, hu⟩ | e
    · rw [e, escd, hv, hu]; simp [hne]
    · rw [e] at h; simp at h

theorem escByte_slash : Net.escByte .path 47 = [47] := by decide

theorem escd_head {raw dec : Bytes} (hp : hasPrefix dec [47] = true) (hr : raw = [] ∨ hasPrefix raw [47] = true) :
    hasPrefix (escd .path raw dec) [47] = true := by
  rcases escd_cases .path raw dec with ⟨e, hne, -, -⟩ | e
  · rw [e]; exact hr.resolve_left hne
  · obtain ⟨t, et⟩ := hasPrefix_iff.1 hp
    rw [e, et]
    exact hasPrefix_iff.2 ⟨Net.escape .path t, by simp [Net.escape, escByte_slash]⟩

theorem escd_no_dslash {raw dec : Bytes} (hp : hasPrefix dec [47, 47] = false) :
    hasPrefix (escd .path raw dec) [47, 47] = false := by
  rw [Bool.eq_false_iff]
  intro hh
  obtain ⟨t, et⟩ := hasPrefix_iff.1 hh
  have := (unescape_some (unescape_escd (Or.inl rfl) raw dec)).2
  rw [et, List.cons_append, List.cons_append, raw_cons_ne (by decide), raw_cons_ne (by decide)] at this
  rw [hasPrefix_iff.2 ⟨_, this⟩] at hp
  cases hp

def qStr (u : URL) : Bytes := if u.forceQuery || u.rawQuery != [] then 63 :: u.rawQuery else []
def fStr (u : URL) : Bytes := if u.fragment != [] then 35 :: u.escapedFragment else []
def userStr (u : URL) : Bytes :=
  match u.user with
  | some ui => ui.str ++ [64]
  | none => []
def hostStr (u : URL) : Bytes := if u.host != [] then Net.escape .host u.host else []

theorem hostStr_eq (u : URL) : hostStr u = Net.escape .host u.host := by
  unfold hostStr
  cases u.host <;> rfl

/-- no `//authority` is printed: the two conditions of `URL.String` -/
def authless (u : URL) : Bool :=
  (u.omitHost && u.host == [] && u.user.isNone) || !(u.host != [] || u.path != [] || u.user.isSome)

def bodyStr (u : URL) : Bytes :=
  if u.opaq != [] then u.opaq
  else if authless u then u.escapedPath
  else 47 :: 47 :: (userStr u ++ hostStr u ++ u.escapedPath)

theorem authless_host {u : URL} (h : authless u = true) : u.host = [] ∧ u.user = none := by
  simp only [authless, Bool.or_eq_true, Bool.and_eq_true, Bool.not_eq_true', Bool.or_eq_false_iff, beq_iff_eq,
    bne_eq_false_iff_eq, Option.isSome_eq_false_iff, Option.isNone_iff_eq_none] at h
  rcases h with ⟨⟨-, h1⟩, h2⟩ | ⟨⟨h1, -⟩, h2⟩ <;> exact ⟨h1, h2⟩

/-- The `/` the code puts before a path that lacks one and the `./` before a first segment with a colon do not occur
(`hslash`, `hs`); what is left is the case distinction of `authless`. -/
theorem str_eq (u : URL) (hs : u.scheme ≠ [])
    (hslash : u.escapedPath = [] ∨ hasPrefix u.escapedPath [47] = true) :
    u.str = u.scheme ++ 58 :: (bodyStr u ++ qStr u) ++ fStr u := by
  have hs' : (u.scheme != []) = true := bne_iff_ne.2 hs
  have hdot : (u.scheme ++ [58] == []) = false := by simp
  have hhead : (u.escapedPath != [] && u.escapedPath.head? != some 47 && u.host != []) = false := by
    rcases hslash with h | h
    · rw [h]; rfl
    · obtain ⟨t, et⟩ := hasPrefix_iff.1 h
      rw [et]; simp
  unfold URL.str bodyStr qStr fStr
  simp only [hs', if_true, hhead, hdot, Bool.false_and, Bool.false_eq_true, if_false, List.append_nil, List.append_assoc,
    List.cons_append, List.nil_append]
  congr 3
  cases u.opaq != [] with
  | true => rfl
  | false =>
    cases hA : (u.omitHost && u.host == [] && u.user.isNone) <;>
      cases hB : (u.host != [] || u.path != [] || u.user.isSome) <;>
      simp only [authless, hA, hB, Bool.true_or, Bool.false_or, Bool.not_true, Bool.not_false, if_true, if_false,
        Bool.false_eq_true, List.nil_append]
    · -- neither host nor userinfo nor path
      simp only [Bool.or_eq_false_iff, bne_eq_false_iff_eq, Option.isSome_eq_false_iff, Option.isNone_iff_eq_none] at hB
      simp only [hB.1.1, hB.2, bne_self_eq_false, Bool.false_eq_true, if_false, List.nil_append]
    · simp only [userStr, hostStr, List.cons_append, List.nil_append, List.append_assoc]
      rfl

/-- `ALPHA *( ALPHA / DIGIT / "+" / "-" / "." )` -/
def validScheme : Bytes → Bool
  | [] => false
  | c :: t => isAlpha c && t.all schemeTail

theorem getSchemeAux_succ (raw : Bytes) (c : UInt8) (i : Nat) (l : Bytes) :
    getSchemeAux raw (i + 1) (c :: l) =
      if schemeTail c then getSchemeAux raw (i + 2) l
      else if c == 58 then some (raw.take (i + 1), l) else some ([], raw) := by
  rw [getSchemeAux, schemeTail]
  cases isAlpha c with
  | true => rfl
  | false =>
    simp only [Bool.false_or]
    cases (isDigit c || c == 43 || c == 45 || c == 46) <;> rfl

theorem getSchemeAux_tail (raw rest : Bytes) : ∀ {t : Bytes} (i : Nat), t.all schemeTail = true →
    getSchemeAux raw (i + 1) (t ++ 58 :: rest) = some (raw.take (i + 1 + t.length), rest)
  | [], _, _ => rfl
  | c :: t, i, h => by
    rw [List.all_cons, Bool.and_eq_true] at h
    rw [List.cons_append, getSchemeAux_succ, if_pos h.1, getSchemeAux_tail raw rest (i + 1) h.2, List.length_cons]
    congr 3; omega

theorem getScheme_valid {s : Bytes} (rest : Bytes) (h : validScheme s = true) : getScheme (s ++ 58 :: rest) = some (s, rest) := by
  cases s with
  | nil => cases h
  | cons c t =>
    rw [validScheme, Bool.and_eq_true] at h
    rw [getScheme, List.cons_append, getSchemeAux, if_pos h.1, getSchemeAux_tail _ rest 0 h.2,
      show 0 + 1 + t.length = t.length + 1 by omega, List.take_succ_cons, List.take_left' rfl]

theorem getSchemeAux_some (raw : Bytes) {s rest : Bytes} : ∀ {l : Bytes} {i : Nat},
    getSchemeAux raw (i + 1) l = some (s, rest) →
    (s = [] ∧ rest = raw) ∨ ∃ t, l = t ++ 58 :: rest ∧ t.all schemeTail = true ∧ s = raw.take (i + t.length + 1)
  | [], _, h => by cases h; exact Or.inl ⟨rfl, rfl⟩
  | c :: l, i, h => by
    cases hc : schemeTail c with
    | true =>
      rw [getSchemeAux_succ, if_pos hc] at h
      refine (getSchemeAux_some raw h).imp_right fun ⟨t, el, ht, es⟩ => ?_
      exact ⟨c :: t, by rw [el]; rfl, by rw [List.all_cons, hc, ht]; rfl, by rw [es, List.length_cons]; congr 1; omega⟩
    | false =>
      rw [getSchemeAux_succ, if_neg (ne_true_of_eq_false hc)] at h
      by_cases h58 : (c == 58) = true
      · rw [if_pos h58] at h; cases h
        exact Or.inr ⟨[], by rw [beq_iff_eq.1 h58]; rfl, rfl, rfl⟩
      · rw [if_neg h58] at h; cases h; exact Or.inl ⟨rfl, rfl⟩

theorem getScheme_some {raw s rest : Bytes} (h : getScheme raw = some (s, rest)) :
    (s = [] ∧ rest = raw) ∨ (validScheme s = true ∧ raw = s ++ 58 :: rest) := by
  cases raw with
  | nil => cases h; exact Or.inl ⟨rfl, rfl⟩
  | cons c l =>
    rw [getScheme, getSchemeAux] at h
    by_cases ha : isAlpha c = true
    · rw [if_pos ha] at h
      refine (getSchemeAux_some _ h).imp_right fun ⟨t, el, ht, es⟩ => ?_
      rw [es, el, Nat.zero_add, List.take_succ_cons, List.take_left' rfl]
      exact ⟨by rw [validScheme, ha, ht]; rfl, rfl⟩
    rw [if_neg ha] at h
    by_cases hd : (isDigit c || c == 43 || c == 45 || c == 46) = true
    · rw [if_pos hd] at h; cases h; exact Or.inl ⟨rfl, rfl⟩
    rw [if_neg hd] at h
    by_cases hc : (c == 58) = true
    · rw [if_pos hc] at h; cases h
    · rw [if_neg hc] at h; cases h; exact Or.inl ⟨rfl, rfl⟩

theorem isAlpha_schemeTail (c : UInt8) (h : isAlpha c = true) : schemeTail c = true := by simp [schemeTail, h]

theorem validScheme_tail {s : Bytes} (h : validScheme s = true) : s ≠ [] ∧ s.all schemeTail = true := by
  cases s with
  | nil => cases h
  | cons c t =>
    simp only [validScheme, Bool.and_eq_true] at h
    exact ⟨List.cons_ne_nil c t, by rw [List.all_cons, isAlpha_schemeTail c h.1, h.2]; rfl⟩

theorem containsCTL_append (a b : Bytes) : containsCTL (a ++ b) = (containsCTL a || containsCTL b) := by
  simp [containsCTL, List.any_append]

theorem containsCTL_cons (c : UInt8) (b : Bytes) : containsCTL (c :: b) = ((c < 32 || c == 127) || containsCTL b) := by
  simp [containsCTL]

theorem cut_query {body : Bytes} (q : Bytes) (fq : Bool) (hb : (63 : UInt8) ∉ body) :
    cut (body ++ if fq || q != [] then 63 :: q else []) 63 = (body, q, fq || q != []) := by
  by_cases hq : (fq || q != []) = true
  · rw [if_pos hq, hq, cut_append q hb]
  · rw [if_neg hq, List.append_nil, cut_none hb]
    rw [Bool.not_eq_true] at hq
    rw [hq, (bne_eq_false_iff_eq.1 (Bool.or_eq_false_iff.1 hq).2 : q = [])]

theorem parse_layout {s body q : Bytes} (fq : Bool) (hs : validScheme s = true) (hl : toLowerAscii s = s)
    (hb : (63 : UInt8) ∉ body) (hc1 : containsCTL body = false) (hc2 : containsCTL q = false) :
    Net.parse (s ++ 58 :: (body ++ (if fq || q != [] then 63 :: q else []))) false =
      parseTailV false s body q (fq && q == []) := by
  obtain ⟨hne, hst⟩ := validScheme_tail hs
  have hctl : containsCTL (s ++ 58 :: (body ++ (if fq || q != [] then 63 :: q else []))) = false := by
    rw [containsCTL_append, containsCTL_cons, containsCTL_append, noCTL_of_all hst fun c hc => (ctl_rejected c hc).2.2.2.2.2, hc1]
    split
    · rw [containsCTL_cons, hc2]; rfl
    · rfl
  have hstar : (s ++ 58 :: (body ++ (if fq || q != [] then 63 :: q else [])) == [42]) = false := by
    cases s with
    | nil => exact absurd rfl hne
    | cons c t => cases t <;> simp
  rw [Net.parse_eq, hctl, hstar, getScheme_valid _ hs]
  simp only [Bool.and_false, Bool.false_eq_true, if_false, hl, cut_query q fq hb]
  cases fq <;> cases q <;> rfl

theorem Parse_layout {pre ef f : Bytes} (hp : (35 : UInt8) ∉ pre) (hef : f ≠ [] → ef ≠ []) :
    Net.Parse (pre ++ (if f != [] then 35 :: ef else [])) =
      match Net.parse pre false with
      | none => none
      | some url => if f = [] then some url else setFragment url ef := by
  unfold Net.Parse
  by_cases hf : f = []
  · subst hf
    simp only [bne_self_eq_false, Bool.false_eq_true, if_false, List.append_nil, cut_none hp]
    cases Net.parse pre false <;> simp
  · have hf' : (f != []) = true := by simpa using hf
    simp only [hf', if_true, cut_append ef hp]
    have : (ef == []) = false := by simpa using hef hf
    cases Net.parse pre false <;> simp [this, hf]

/-- the userinfo as `parseAuthority` reads it back -/
def reparsedUser (ui : User) : User :=
  if ui.passwordSet then ⟨ui.username, ui.password, true⟩ else ⟨ui.username, [], false⟩

theorem reparsedUser_str (ui : User) : (reparsedUser ui).str = ui.str := by
  unfold reparsedUser User.str
  split <;> simp_all

theorem User.str_all {P : UInt8 → Bool} (hP : ∀ c, escB .userPassword c = true → P c = true) (h58 : P 58 = true)
    (ui : User) : ui.str.all P = true := by
  have he : ∀ s, (Net.escape .userPassword s).all P = true := fun s =>
    List.all_eq_true.2 fun c hc => hP c (List.all_eq_true.1 (escape_all _ s) c hc)
  unfold User.str
  rw [List.all_append, he]
  split
  · rw [List.all_cons, h58, he]; rfl
  · rfl

theorem validUserinfo_str (ui : User) : validUserinfo ui.str = true :=
  User.str_all (fun c hc => by
    simpa only [validUserinfo, List.all_cons, List.all_nil, Bool.and_true] using validUserinfo_of_escB hc) (by decide) ui

theorem validEncoded_userStr (u : URL) : validEncoded (userStr u) .userPassword = true := by
  unfold userStr
  split
  · next ui _ => rw [validEncoded_eq, List.all_append, User.str_all (fun _ => encB_of_escB) rfl ui]; rfl
  · rfl

theorem validEncoded_hostStr (u : URL) : validEncoded (hostStr u) .host = true := by
  rw [hostStr_eq]; exact validEncoded_escape _ _

theorem parseAuthority_layout {u : URL} (hh : parseHost (hostStr u) = some u.host) :
    parseAuthority (userStr u ++ hostStr u) = some (u.user.map reparsedUser, u.host) := by
  have h64 : (64 : UInt8) ∉ hostStr u := by
    rw [hostStr_eq]; exact not_mem_of_all (escape_all .host u.host) (by decide)
  unfold parseAuthority userStr
  cases u.user with
  | none => rw [List.nil_append, lastIndexByte_eq_none h64, hh]; rfl
  | some ui =>
    have a2 : (58 : UInt8) ∉ Net.escape .userPassword ui.username := not_mem_of_all (escape_all _ _) (by decide)
    have hun := fun s => escapeRoundTrip .userPassword s (Or.inr (Or.inr rfl))
    rw [List.append_assoc, List.singleton_append, lastIndexByte_append h64]
    simp only [List.take_left', List.drop_length_add_append, List.drop_succ_cons, List.drop_zero, hh, validUserinfo_str,
      Bool.not_true, Bool.false_eq_true, if_false]
    -- the userinfo is `name` or `name:password`, cut at the first colon, and the escaped name has none
    unfold reparsedUser User.str
    cases hps : ui.passwordSet with
    | false => simp [hps, a2, hun]
    | true => simp [hps, cut_append _ a2, hun]

def OpaqOK (o : Bytes) : Prop :=
  hasPrefix o [47] = false ∧ (63 : UInt8) ∉ o ∧ (35 : UInt8) ∉ o ∧ containsCTL o = false

/-- the layout conditions under which the `href` of `u` can be read back -/
structure Lay (u : URL) : Prop where
  scheme : validScheme u.scheme = true
  lower : toLowerAscii u.scheme = u.scheme
  opaq : u.opaq ≠ [] → OpaqOK u.opaq
  path : u.path = [] ∨ (hasPrefix u.path [47] = true ∧ hasPrefix u.path [47, 47] = false)
  rawPath : u.rawPath = [] ∨ hasPrefix u.rawPath [47] = true
  query : escapeQuery u.rawQuery = u.rawQuery
  host : parseHost (hostStr u) = some u.host

/-- what `Parse` reads back from the printed pieces of a hierarchical `u`: the raw forms are recomputed -/
def reread (u : URL) : URL :=
  { u with
    user := u.user.map reparsedUser
    rawPath := rawOf .path u.escapedPath u.path
    omitHost := authless u && u.path != []
    forceQuery := u.forceQuery && u.rawQuery == []
    rawFragment := rawOf .fragment u.escapedFragment u.fragment }

/-- next to an opaque part nothing else of what follows the scheme is printed, and `Parse` stores nothing -/
def opaqueOnly (v : URL) : URL :=
  let hier := v.opaq == []
  { v with
    user := if hier then v.user else none
    host := if hier then v.host else []
    path := if hier then v.path else []
    rawPath := if hier then v.rawPath else []
    omitHost := hier && v.omitHost }

def reparse (u : URL) : URL := opaqueOnly (reread u)

theorem reparse_hier {u : URL} (ho : u.opaq = []) : reparse u = reread u := by
  have : ((reread u).opaq == []) = true := beq_iff_eq.2 ho
  unfold reparse opaqueOnly
  rw [this]; rfl

theorem Lay.star {u : URL} (h : Lay u) : u.path ≠ [42] := by
  intro e
  rcases h.path with h0 | ⟨h0, _⟩
  · rw [e] at h0; cases h0
  · rw [e] at h0; revert h0; decide

theorem Lay.epath {u : URL} (h : Lay u) : u.escapedPath = escd .path u.rawPath u.path := escapedPath_eq u h.star

theorem Lay.pathCases {u : URL} (h : Lay u) :
    (u.path = [] ∧ u.escapedPath = []) ∨
    (u.path ≠ [] ∧ hasPrefix u.escapedPath [47] = true ∧ hasPrefix u.escapedPath [47, 47] = false) := by
  rw [h.epath]
  refine h.path.imp (fun hp => ⟨hp, (escd_eq_nil (Or.inl rfl)).2 hp⟩) fun ⟨h1, h2⟩ => ?_
  exact ⟨fun e => (by rw [e] at h1; cases h1), escd_head h1 h.rawPath, escd_no_dslash h2⟩

theorem Lay.slash {u : URL} (h : Lay u) : u.escapedPath = [] ∨ hasPrefix u.escapedPath [47] = true :=
  h.pathCases.imp (·.2) (·.2.1)

theorem bodyStr_props {u : URL} (h : Lay u) :
    (63 : UInt8) ∉ bodyStr u ∧ (35 : UInt8) ∉ bodyStr u ∧ containsCTL (bodyStr u) = false := by
  have hp := h.epath ▸ validEncoded_escd .path u.rawPath u.path
  have hu := validEncoded_userStr u
  have hh := validEncoded_hostStr u
  have e1 := not_mem_of_all hp (c := 63) (by decide)
  have e2 := not_mem_of_all hp (c := 35) (by decide)
  have e3 := noCTL_of_all hp (fun c hc => (ctl_rejected c hc).1)
  unfold bodyStr
  split
  · next ho => exact (h.opaq (by simpa using ho)).2
  · split
    · exact ⟨e1, e2, e3⟩
    · simp only [List.mem_cons, List.mem_append, not_or, containsCTL_cons, containsCTL_append]
      refine ⟨⟨by decide, by decide, ⟨not_mem_of_all hu (by decide), not_mem_of_all hh (by decide)⟩, e1⟩,
        ⟨by decide, by decide, ⟨not_mem_of_all hu (by decide), not_mem_of_all hh (by decide)⟩, e2⟩, ?_⟩
      rw [noCTL_of_all hu (fun c hc => (ctl_rejected c hc).2.2.1), noCTL_of_all hh (fun c hc => (ctl_rejected c hc).2.2.2.1), e3]
      decide

theorem parseTailV_opaque {v : Bool} {s o q : Bytes} {fq : Bool} (hs : s ≠ []) (ho : hasPrefix o [47] = false) :
    parseTailV v s o q fq = some { scheme := s, opaq := o, rawQuery := q, forceQuery := fq } := by
  have hs' : (s != []) = true := bne_iff_ne.2 hs
  unfold parseTailV
  rw [ho, hs']; rfl

theorem parseTailV_path {s p q : Bytes} {fq : Bool} (hs : s ≠ []) (h1 : hasPrefix p [47] = true)
    (h2 : hasPrefix p [47, 47] = false) :
    parseTailV false s p q fq = setPath { scheme := s, omitHost := true, rawQuery := q, forceQuery := fq } p := by
  have hs' : (s != []) = true := bne_iff_ne.2 hs
  unfold parseTailV
  rw [h1, h2, hs']; rfl

theorem parseTailV_auth {s a p q : Bytes} {fq : Bool} (hs : s ≠ []) (ha : (47 : UInt8) ∉ a)
    (hp : p = [] ∨ hasPrefix p [47] = true) :
    parseTailV false s (47 :: 47 :: (a ++ p)) q fq =
      (parseAuthority a).bind fun uh =>
        setPath { scheme := s, user := uh.1, host := uh.2, rawQuery := q, forceQuery := fq } p := by
  have hs' : (s != []) = true := bne_iff_ne.2 hs
  have p1 : hasPrefix (47 :: 47 :: (a ++ p)) [47] = true := rfl
  have p2 : hasPrefix (47 :: 47 :: (a ++ p)) [47, 47] = true := rfl
  unfold parseTailV
  simp only [p1, p2, hs', Bool.not_true, Bool.false_and, Bool.false_eq_true, if_false, Bool.true_or, Bool.and_true,
    if_true, List.drop_succ_cons, List.drop_zero]
  rcases hp with rfl | hp
  · rw [List.append_nil, indexByte_eq_none ha]
    cases parseAuthority a <;> rfl
  · obtain ⟨t, rfl⟩ := hasPrefix_iff.1 hp
    rw [show [47] ++ t = 47 :: t from rfl, indexByte_append t ha]
    simp only [List.take_left', List.drop_left']
    cases parseAuthority a <;> rfl

/-- from the outside in: fragment (`Parse_layout`), scheme and query (`parse_layout`), `bodyStr` by the case that wrote it -/
theorem Parse_str {u : URL} (h : Lay u) : Net.Parse u.str = some (reparse u) := by
  obtain ⟨hsne, hst⟩ := validScheme_tail h.scheme
  obtain ⟨b1, b2, b3⟩ := bodyStr_props h
  have hq : u.rawQuery.all qsafe = true := by rw [← h.query]; exact escapeQuery_all_qsafe _
  have hpre : (35 : UInt8) ∉ u.scheme ++ 58 :: (bodyStr u ++ qStr u) := by
    unfold qStr
    simp only [List.mem_append, List.mem_cons, not_or]
    refine ⟨not_mem_of_all hst (by decide), by decide, b2, ?_⟩
    split
    · simp only [List.mem_cons, not_or]; exact ⟨by decide, not_mem_of_all hq (by decide)⟩
    · exact List.not_mem_nil
  have hf : u.fragment ≠ [] → u.escapedFragment ≠ [] := fun hf he => hf ((escd_eq_nil (Or.inr (Or.inl rfl))).1 he)
  rw [str_eq u hsne h.slash, fStr, Parse_layout hpre hf, qStr,
    parse_layout u.forceQuery h.scheme h.lower b1 b3
      (noCTL_of_all hq (fun c hc => (ctl_rejected c hc).2.2.2.2.1))]
  have hbody : parseTailV false u.scheme (bodyStr u) u.rawQuery (u.forceQuery && u.rawQuery == []) =
      some { reparse u with fragment := [], rawFragment := [] } := by
    unfold bodyStr
    by_cases ho : u.opaq = []
    · rw [if_neg (by simp [ho]), reparse_hier ho]
      unfold reread
      have hset : ∀ u0 : URL, setPath u0 u.escapedPath =
          some { u0 with path := u.path, rawPath := rawOf .path u.escapedPath u.path } := fun u0 => by
        rw [setPath_eq, h.epath, unescape_escd (Or.inl rfl)]; rfl
      cases hal : authless u with
      | true =>
        obtain ⟨hh, hu⟩ := authless_host hal
        rw [if_pos rfl, hh, hu, ho]
        rcases h.pathCases with ⟨hp, hep⟩ | ⟨hp, h1, h2⟩
        · -- nothing after the scheme
          rw [hep, parseTailV_opaque hsne rfl, hp, rawOf_nil]
          rfl
        · rw [parseTailV_path hsne h1 h2, hset, bne_iff_ne.2 hp]
          rfl
      | false =>
        have h47 : (47 : UInt8) ∉ userStr u ++ hostStr u := by
          have hu := validEncoded_userStr u
          have hh := validEncoded_hostStr u
          simp only [List.mem_append, not_or]
          exact ⟨not_mem_of_all hu (by decide), not_mem_of_all hh (by decide)⟩
        rw [if_neg Bool.false_ne_true, parseTailV_auth hsne h47 h.slash, parseAuthority_layout h.host,
          Option.bind_some, hset, ho]
        rfl
    · have : ((reread u).opaq == []) = false := beq_eq_false_iff_ne.2 ho
      rw [if_pos (bne_iff_ne.2 ho), parseTailV_opaque hsne (h.opaq ho).1, reparse, opaqueOnly, this]
      rfl
  rw [hbody]
  by_cases hfr : u.fragment = []
  · have : u.escapedFragment = [] := (escd_eq_nil (Or.inr (Or.inl rfl))).2 hfr
    simp only [hfr, if_true, reparse, opaqueOnly, reread, this, rawOf_nil]
  · simp only [hfr, if_false]
    rw [setFragment_eq, escapedFragment_eq, unescape_escd (Or.inr (Or.inl rfl))]
    rfl

theorem authless_reread (u : URL) : authless (reread u) = authless u := by
  rw [authless]
  cases hal : authless u with
  | true =>
    obtain ⟨hh, hu⟩ := authless_host hal
    simp only [reread, hal, hh, hu]
    cases u.path != [] <;> rfl
  | false =>
    simp only [reread, hal, Bool.false_and, Bool.false_or, Option.isSome_map]
    exact (Bool.or_eq_false_iff.1 hal).2

theorem userStr_reread (u : URL) : userStr (reread u) = userStr u := by
  unfold userStr reread
  cases u.user with
  | none => rfl
  | some ui => exact congrArg (· ++ [64]) (reparsedUser_str ui)

theorem reread_str {u : URL} (h : Lay u) : (reread u).str = u.str := by
  have hsne := (validScheme_tail h.scheme).1
  have hep : (reread u).escapedPath = u.escapedPath := by
    rw [escapedPath_eq (reread u) h.star, reread, h.epath]; exact escd_rawOf _ _ _
  have hq : qStr (reread u) = qStr u := by
    have : (u.forceQuery && u.rawQuery == [] || u.rawQuery != []) = (u.forceQuery || u.rawQuery != []) := by
      cases u.forceQuery <;> cases u.rawQuery <;> rfl
    simp only [qStr, reread, this]
  have hf : fStr (reread u) = fStr u := by
    simp only [fStr, escapedFragment_eq, reread, escd_rawOf]
  have hb : bodyStr (reread u) = bodyStr u := by
    unfold bodyStr
    rw [authless_reread, hep, userStr_reread]; rfl
  rw [str_eq u hsne h.slash, str_eq (reread u) hsne (hep ▸ h.slash), hq, hf, hb]; rfl

theorem str_opaque (v : URL) (ho : v.opaq ≠ []) {us : Option User} {h p rp : Bytes} {oh : Bool} :
    { v with user := us, host := h, path := p, rawPath := rp, omitHost := oh }.str = v.str := by
  have ho' : (v.opaq != []) = true := bne_iff_ne.2 ho
  unfold URL.str URL.escapedFragment
  simp only [ho', if_true]

theorem opaqueOnly_str (v : URL) : (opaqueOnly v).str = v.str := by
  unfold opaqueOnly
  cases ho : v.opaq == [] with
  | true => rfl
  | false => exact str_opaque v (beq_eq_false_iff_ne.1 ho)

/-- the normal-form conditions a reachable URL satisfies -/
structure NormOK (u : URL) : Prop where
  opaqNet : u.opaq ≠ [] → isSpecialNetProtocol u.scheme = false
  path : cleanPath u.path u.scheme = u.path
  colons : validHostColons u = true
  port : u.port = [] ∨ ∃ n, atoi u.port = some n ∧ isDefaultURLPort u.scheme n = false
  hostFix : fixHost u.scheme u.host = .ok u.host ∨ fixHost u.scheme u.host = .error .noclaim

theorem normalizeURL_normal (v : URL) (h1 : (isSpecialNetProtocol v.scheme && v.host == [] && v.path == []) = false)
    (hc : validHostColons v = true)
    (hp : v.port = [] ∨ ∃ n, atoi v.port = some n ∧ isDefaultURLPort v.scheme n = false)
    (hf : fixHost v.scheme v.host = .ok v.host ∨ fixHost v.scheme v.host = .error .noclaim)
    (hq : escapeQuery v.rawQuery = v.rawQuery) :
    normalizeURL v = .ok { v with path := cleanPath v.path v.scheme } ∨ normalizeURL v = .error .noclaim := by
  rw [normalizeURL_eq, h1, hc, normPort_of_port hp, fixURL_eq]
  rcases hf with hf | hf
  · left
    rw [hf]
    exact congrArg Except.ok (fixRawQuery_of_fixed hq)
  · right; rw [hf]; rfl

/-- A hierarchical `reparse u` has the scheme, host, path and query of `u`, which are normal, so only `cleanPath` acts and
changes nothing.  An opaque one has no host and no path, and whatever `cleanPath` makes of the path is not printed. -/
theorem normalize_reparse {u : URL} (hL : Lay u) (hN : NormOK u) :
    (∃ u'', normalizeURL (reparse u) = .ok u'' ∧ u''.str = (reparse u).str) ∨
    normalizeURL (reparse u) = .error .noclaim := by
  by_cases ho : u.opaq = []
  · rw [reparse_hier ho]
    have c1 : (isSpecialNetProtocol u.scheme && u.host == [] && u.path == []) = false := by
      cases hsn : isSpecialNetProtocol u.scheme with
      | false => rfl
      | true =>
        have : u.path ≠ [] := fun e => by
          have := hN.path
          rw [e, cleanPath_nil_special (specialNet_special hsn)] at this
          cases this
        simp [this]
    rcases normalizeURL_normal (reread u) c1 hN.colons hN.port hN.hostFix hL.query with h | h
    · have hfix : cleanPath (reread u).path (reread u).scheme = (reread u).path := hN.path
      exact Or.inl ⟨_, h, by rw [hfix]⟩
    · exact Or.inr h
  · have hho : ((reread u).opaq == []) = false := beq_eq_false_iff_ne.2 ho
    have eh : (reparse u).host = ({} : URL).host := by rw [reparse, opaqueOnly, hho]; rfl
    have es : (reparse u).scheme = u.scheme := rfl
    rcases normalizeURL_normal (reparse u) (by rw [es, hN.opaqNet ho]; rfl)
        (by rw [validHostColons_congr eh]; decide)
        (Or.inl (by rw [port_congr eh]; decide)) (by rw [eh]; exact Or.inl (fixHost_nil _)) hL.query with h | h
    · exact Or.inl ⟨_, h, str_opaque (reparse u) ho⟩
    · exact Or.inr h

/-- what `ReparseStable` says about one state -/
def ReparseOK (st : St) : Prop :=
  match construct (observe st).2.href none with
  | .ok u' => (observe { url := u' }).2.href = (observe st).2.href
  | .error .noclaim => True
  | .error _ => False

theorem parseURL_str {u : URL} (hL : Lay u) (hN : NormOK u) :
    (∃ u', parseURL u.str true = .ok u' ∧ u'.str = u.str) ∨ parseURL u.str true = .error .noclaim := by
  have habs : (true && !(reparse u).isAbs) = false := by
    show (true && !(u.scheme != [])) = false
    rw [bne_iff_ne.2 (validScheme_tail hL.scheme).1]; rfl
  unfold parseURL
  rw [Parse_str hL]
  simp only [habs, Bool.false_eq_true, if_false]
  rcases normalize_reparse hL hN with ⟨u'', h1, h2⟩ | h
  · exact Or.inl ⟨u'', h1, h2.trans ((opaqueOnly_str _).trans (reread_str hL))⟩
  · exact Or.inr h

theorem reparseOK_of {st : St} (hL : Lay st.sync.url) (hN : NormOK st.sync.url) : ReparseOK st := by
  have e1 : (observe st).2.href = st.sync.url.str := rfl
  have e2 : construct st.sync.url.str none = parseURL st.sync.url.str true := rfl
  unfold ReparseOK
  have key := parseURL_str hL hN
  rw [e1, e2]
  generalize parseURL st.sync.url.str true = r at key ⊢
  rcases key with ⟨u', rfl, e⟩ | rfl
  · exact e
  · trivial

/-! ## `u.protocol = "/x"` on a non-special URL

Before the `protocol` setter of url.go was repaired (the parsed scheme must equal the assigned one) the state reached by
`new URL("foo://h/p")` followed by `u.protocol = "/x"` had `href = "/x://h/p"`, which `new URL` rejects: `ReparseStable`
failed there.  The model is of the repaired setter, which ignores the assignment (`cex_step_ignored`). -/

/-- `new URL("foo://h/p")` -/
def cexUrl0 : URL := { scheme := [102, 111, 111], host := [104], path := [47, 112] }

-- for the two evaluations below, which compare results of `construct` and `step`
deriving instance DecidableEq for Except, St

theorem cex_ctor : construct [102, 111, 111, 58, 47, 47, 104, 47, 112] none = .ok cexUrl0 := by decide +kernel

theorem cex_step_ignored : step { url := cexUrl0 } (.set .protocol [47, 120]) = .ok { url := cexUrl0 } := by
  decide +kernel

section
-- `ReparseOK st` is a `match` on `construct …`, which the elaborator evaluates as far as it goes whenever a statement
-- mentions it; it is kept folded for this corollary
attribute [local irreducible] ReparseOK

/-- a state whose synchronised URL satisfies the layout conditions `Lay` and the normal-form conditions `NormOK` has an
`href` that parses again to the same `href` -/
theorem reparseStable_partial_layout (st : St) (hL : Lay st.sync.url) (hN : NormOK st.sync.url) : ReparseOK st :=
  reparseOK_of hL hN

end

end GN.Url.Obj
