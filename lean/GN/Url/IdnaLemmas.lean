import GN.Url.Idna
import GN.Url.NetLemmas
import GN.Url.ParamsLemmas2
import GN.ByteArrayLemmas

/-!
# `Idna.toASCII`: which bytes it writes, and what it does to its own output   [C13]

Whatever `toASCII` writes besides lower-cased ASCII bytes of its input is a lower-case letter, a digit, `-` or `.`, so a
byte class that contains these and is closed under lower-casing is preserved (`toASCII_all`).  The instance "ASCII without
capitals" gives `idna_idem`: on such a string lower-casing, splitting at `.`, converting the labels and joining again
change nothing, unless an `xn--` label leaves the model.  The instance "no `:`" gives `toASCII_no_colon`.  `idna_prefix`
(no `[` in front unless the input has one) is not of this kind: it needs the position of the first label.
-/

namespace GN.Url.Obj
open GN GN.Url GN.Url.Net

def lowerByte (c : UInt8) : UInt8 := if 65 ≤ c && c ≤ 90 then c + 32 else c

theorem toLowerAscii_eq (s : Bytes) : toLowerAscii s = s.map lowerByte := rfl

theorem lowerByte_alpha : ∀ c : UInt8, lowerByte c = c ∨ (isAlpha c = true ∧ isAlpha (lowerByte c) = true) := by
  decide +kernel

theorem lowerByte_class {P : UInt8 → Bool} (hP : ∀ c, isAlpha c = true → P c = true) {c : UInt8} (h : P c = true) :
    P (lowerByte c) = true := by
  rcases lowerByte_alpha c with e | ⟨_, h2⟩
  · rw [e]; exact h
  · exact hP _ h2

theorem lowerByte_eq {c x : UInt8} (hx : isAlpha x = false) (h : lowerByte c = x) : c = x := by
  rcases lowerByte_alpha c with e | ⟨_, h2⟩
  · rw [← e, h]
  · rw [h, hx] at h2; cases h2

theorem toLowerAscii_all {P : UInt8 → Bool} (hP : ∀ c, isAlpha c = true → P c = true) {s : Bytes}
    (h : s.all P = true) : (toLowerAscii s).all P = true := by
  rw [toLowerAscii_eq, List.all_map, List.all_eq_true]
  exact fun c hc => lowerByte_class hP (List.all_eq_true.1 h c hc)

theorem hasPrefix_toLower (w : Bytes) : hasPrefix (toLowerAscii w) [91] = hasPrefix w [91] := by
  cases w with
  | nil => rfl
  | cons c t =>
    rw [toLowerAscii_eq, List.map_cons, hasPrefix_cons1, hasPrefix_cons1]
    by_cases hc : c = 91
    · subst hc; rfl
    · rw [beq_eq_false_iff_ne.2 fun e => hc e.symm, beq_eq_false_iff_ne.2 fun e => hc (lowerByte_eq (by decide) e.symm)]

theorem lowerByte_of_notUpper (c : UInt8) (h : (65 ≤ c && c ≤ 90) = false) : lowerByte c = c := by
  unfold lowerByte; simp [h]

theorem lowerByte_toNat : ∀ c : UInt8,
    (lowerByte c).toNat = if 65 ≤ c.toNat ∧ c.toNat ≤ 90 then c.toNat + 32 else c.toNat := by decide +kernel

theorem lowerCp_spec (n : Nat) :
    (65 ≤ n ∧ n ≤ 90 ∧ Idna.lowerCp n = n + 32) ∨
    (¬(65 ≤ n ∧ n ≤ 90) ∧ (Idna.lowerCp n = n ∨ (192 ≤ n ∧ n ≤ 1071 ∧ n < Idna.lowerCp n ∧ Idna.lowerCp n ≤ n + 80))) := by
  unfold Idna.lowerCp
  simp only [Bool.and_eq_true, decide_eq_true_eq, bne_iff_ne, ne_eq]
  repeat' split
  all_goals omega

theorem lowerCp_small (n : Nat) (h : Idna.lowerCp n < 128) :
    n < 128 ∧ Idna.lowerCp n = if 65 ≤ n ∧ n ≤ 90 then n + 32 else n := by
  rcases lowerCp_spec n with ⟨h1, h2, e⟩ | ⟨hn, e⟩
  · rw [if_pos ⟨h1, h2⟩]; omega
  · rw [if_neg hn]; omega

theorem lowerCp_valid {n : Nat} (h : n.isValidChar) : (Idna.lowerCp n).isValidChar := by
  unfold Nat.isValidChar at h ⊢
  have := lowerCp_spec n
  omega

theorem asciiChar_byte (c : Char) (h : c.toNat < 128) :
    String.utf8EncodeChar c = [c.val.toUInt8] ∧ c.val.toUInt8.toNat = c.toNat := by
  have hs : c.utf8Size = 1 := Char.utf8Size_eq_one_iff.2 (UInt32.le_iff_toNat_le.2 (Nat.le_of_lt_succ h))
  refine ⟨String.utf8EncodeChar_eq_singleton hs, ?_⟩
  rw [UInt32.toNat_toUInt8]
  exact Nat.mod_eq_of_lt (Nat.lt_trans h (by decide))

theorem utf8Dec_bytes {l : Bytes} {cps : List Nat} (h : Idna.utf8Dec l = some cps) :
    ∃ cs : List Char, cps = cs.map Char.toNat ∧ l = cs.flatMap String.utf8EncodeChar := by
  unfold Idna.utf8Dec at h
  cases hs : String.fromUTF8? ⟨l.toArray⟩ with
  | none => rw [hs] at h; cases h
  | some s =>
    rw [hs] at h
    simp only [Option.map_some, Option.some.injEq] at h
    refine ⟨s.toList, h.symm, ?_⟩
    have hb : s.toByteArray = ⟨l.toArray⟩ := by
      unfold String.fromUTF8? at hs
      split at hs
      · cases hs; rfl
      · cases hs
    have := @String.utf8Encode_toList s
    rw [hb] at this
    have h2 := congrArg (fun b => b.data.toList) this
    simp only [List.utf8Encode, List.toList_data_toByteArray] at h2
    simpa using h2.symm

theorem memB_encodeChar {b : UInt8} (hb : b.toNat < 128) {d : Char} (h : b ∈ String.utf8EncodeChar d) :
    d.toNat = b.toNat := by
  -- every byte of a longer encoding has its top bit set
  have hor : ∀ {x y : UInt8}, 128 ≤ y.toNat → b ≠ x ||| y := fun {x y} hy e => by
    have := Nat.right_le_or (m := y.toNat) (n := x.toNat)
    rw [e, UInt8.toNat_or] at hb
    omega
  rcases d.utf8Size_eq with h1 | h1 | h1 | h1
  · rw [String.utf8EncodeChar_eq_singleton h1, List.mem_singleton] at h
    have := UInt32.le_iff_toNat_le.1 (Char.utf8Size_eq_one_iff.1 h1)
    rw [h, UInt32.toNat_toUInt8]
    exact (Nat.mod_eq_of_lt (Nat.lt_of_le_of_lt this (by decide))).symm
  · simp only [String.utf8EncodeChar_eq_cons_cons h1, List.mem_cons, List.not_mem_nil, or_false] at h
    rcases h with h | h <;> exact absurd h (hor (by decide))
  · simp only [String.utf8EncodeChar_eq_cons_cons_cons h1, List.mem_cons, List.not_mem_nil, or_false] at h
    rcases h with h | h | h <;> exact absurd h (hor (by decide))
  · simp only [String.utf8EncodeChar_eq_cons_cons_cons_cons h1, List.mem_cons, List.not_mem_nil, or_false] at h
    rcases h with h | h | h | h <;> exact absurd h (hor (by decide))

/-- the basic code points, which `punyEncode` copies to its output, are bytes of the label it was given -/
theorem basic_sub {l : Bytes} {cps : List Nat} (h : Idna.utf8Dec l = some cps) {n : Nat} (hn : n ∈ cps) (hlt : n < 128) :
    n.toUInt8 ∈ l ∧ n.toUInt8.toNat = n := by
  obtain ⟨cs, rfl, rfl⟩ := utf8Dec_bytes h
  obtain ⟨c, hc, rfl⟩ := List.mem_map.1 hn
  obtain ⟨hb, hv⟩ := asciiChar_byte c hlt
  exact ⟨List.mem_flatMap.2 ⟨c, hc, by rw [hb]; exact List.mem_singleton_self _⟩, hv⟩

theorem lowerChar_ascii (c : Char) (b : UInt8) (hb : b ∈ String.utf8EncodeChar (Char.ofNat (Idna.lowerCp c.toNat)))
    (hb128 : b.toNat < 128) :
    String.utf8EncodeChar c = [c.val.toUInt8] ∧ c.val.toUInt8 < 128 ∧ b = lowerByte c.val.toUInt8 := by
  have hd := memB_encodeChar hb128 hb
  have hm : (Char.ofNat (Idna.lowerCp c.toNat)).toNat = Idna.lowerCp c.toNat := by
    have hv : (Idna.lowerCp c.toNat).isValidChar := lowerCp_valid c.valid
    unfold Char.ofNat
    rw [dif_pos hv]
    rfl
  rw [hm] at hd
  obtain ⟨hlt, hv⟩ := lowerCp_small c.toNat (by omega)
  obtain ⟨he, hn⟩ := asciiChar_byte c hlt
  refine ⟨he, by rw [UInt8.lt_iff_toNat_lt, hn]; exact hlt, UInt8.toNat_inj.1 ?_⟩
  rw [lowerByte_toNat, hn, ← hd, hv]

theorem lowerHost_some {w lh : Bytes} (h : Idna.lowerHost w = some lh) :
    (w.all (· < 128) = true ∧ lh = toLowerAscii w) ∨
    ∃ cs : List Char, w = cs.flatMap String.utf8EncodeChar ∧
      lh = cs.flatMap fun c => String.utf8EncodeChar (Char.ofNat (Idna.lowerCp c.toNat)) := by
  unfold Idna.lowerHost at h
  split at h
  · next ha => cases h; exact Or.inl ⟨ha, rfl⟩
  · split at h
    · cases h
    · next cps hc =>
      obtain ⟨cs, rfl, rfl⟩ := utf8Dec_bytes hc
      split at h
      · cases h
        exact Or.inr ⟨cs, rfl, by rw [Idna.utf8Enc, utf8_bytes, List.map_map, List.map_map, List.flatMap_map]; rfl⟩
      · cases h

theorem subset_intercalate (sep : Bytes) : ∀ {ls : List Bytes} {l : Bytes}, l ∈ ls → l ⊆ sep.intercalate ls
  | [_], _, h => by rw [List.mem_singleton.1 h, List.intercalate_singleton]; exact List.Subset.refl _
  | _ :: _ :: _, _, h => by
    rw [List.intercalate_cons_cons]
    rcases List.mem_cons.1 h with rfl | h
    · exact List.subset_append_of_subset_left _ (List.subset_append_left _ _)
    · exact List.subset_append_of_subset_right _ (subset_intercalate sep h)

theorem mem_splitOn {sep : UInt8} {s l : Bytes} (hl : l ∈ splitOn sep s) {x : UInt8} (hx : x ∈ l) : x ∈ s := by
  have h := subset_intercalate [sep] hl hx
  rwa [intercalate_splitOn] at h

theorem mem_intercalate {sep : Bytes} {x : UInt8} {ls : List Bytes} (h : x ∈ sep.intercalate ls) :
    x ∈ sep ∨ ∃ l ∈ ls, x ∈ l := by
  induction ls with
  | nil => simp at h
  | cons l t ih =>
    cases t with
    | nil => simp only [List.intercalate_singleton] at h; exact Or.inr ⟨l, by simp, h⟩
    | cons l' t' =>
      rw [List.intercalate_cons_cons, List.mem_append, List.mem_append] at h
      rcases h with (h | h) | h
      · exact Or.inr ⟨l, by simp, h⟩
      · exact Or.inl h
      · rcases ih h with h | ⟨m, hm, hx⟩
        · exact Or.inl h
        · exact Or.inr ⟨m, List.mem_cons_of_mem _ hm, hx⟩

/-- the bytes a punycode label is made of, and the label separator -/
def ldh (b : UInt8) : Bool := (97 ≤ b && b ≤ 122) || isDigit b || b == 45 || b == 46

theorem digit_ldh : ∀ d : Fin 36, ldh (Idna.digit d.val) = true := by decide

/-- Induction over the punycode encoder: `encOuter`, through `encInner` and `encVar`, does nothing to its output but append
digits `digit d` with `d < 36`. -/
theorem encOuter_ind (Q : Bytes → Prop) (hQ : ∀ out d, d < 36 → Q out → Q (out ++ [Idna.digit d]))
    {s : List Nat} {b f : Nat} {st : Idna.PSt} (h : Q st.out) : Q (Idna.encOuter s b f st).out := by
  have var : ∀ {f q k bias : Nat} {out : Bytes}, Q out → Q (Idna.encVar f q k bias out) := by
    intro f
    induction f with
    | zero => intro q k bias out h; exact h
    | succ f ih =>
      intro q k bias out h
      unfold Idna.encVar
      simp only
      generalize ht : (if k ≤ bias then 1 else if k ≥ bias + 26 then 26 else k - bias) = t
      have htb : 1 ≤ t ∧ t ≤ 26 := by
        subst ht
        split
        · omega
        · split <;> omega
      split
      · exact hQ _ q (by omega) h
      · have : (q - t) % (36 - t) < 36 - t := Nat.mod_lt _ (by omega)
        exact ih (hQ _ _ (by omega) h)
  have inner : ∀ (st : Idna.PSt), Q st.out → ∀ r ∈ s, Q (Idna.encInner b st r).out := by
    intro st h r _
    unfold Idna.encInner
    split
    · exact h
    · split
      · exact h
      · exact var h
  induction f generalizing st with
  | zero => exact h
  | succ f ih =>
    unfold Idna.encOuter
    split
    · exact h
    · exact ih (List.foldlRecOn (motive := fun st : Idna.PSt => Q st.out) s _ h inner)

theorem punyEncode_prefix (cps : List Nat) : ∃ t, Idna.punyEncode cps = [120, 110, 45, 45] ++ t := by
  unfold Idna.punyEncode
  refine encOuter_ind (fun out => ∃ t, out = [120, 110, 45, 45] ++ t) ?_ ⟨_, List.append_assoc _ _ _⟩
  rintro out d - ⟨t, rfl⟩
  exact ⟨_, List.append_assoc _ _ _⟩

/-- the label that takes the place of `l` -/
def labelOut (l : Bytes) : Bytes :=
  match Idna.labelToASCII l with
  | .ok a => a
  | _ => l

/-- the label loop (`acc`: labels done, last first): all convert and are joined by dots, or a label's failure is returned -/
theorem go_cases : ∀ (ls acc : List Bytes),
    ((∀ l ∈ ls, Idna.labelToASCII l = .ok (labelOut l)) ∧
      Idna.toASCIILower.go ls (some acc) = .ok (([46] : Bytes).intercalate (acc.reverse ++ ls.map labelOut))) ∨
    ∃ l ∈ ls, Idna.toASCIILower.go ls (some acc) = Idna.labelToASCII l ∧ ∀ a, Idna.labelToASCII l ≠ .ok a
  | [], acc => Or.inl ⟨fun _ h => (nomatch h), by rw [List.map_nil, List.append_nil]; rfl⟩
  | l :: t, acc => by
    rw [Idna.toASCIILower.go]
    cases hl : Idna.labelToASCII l with
    | ok a =>
      have ea : labelOut l = a := by rw [labelOut, hl]
      rcases go_cases t (a :: acc) with ⟨h1, h2⟩ | ⟨m, hm, h⟩
      · refine Or.inl ⟨fun x hx => ?_, h2.trans ?_⟩
        · rcases List.mem_cons.1 hx with rfl | hx
          · rw [hl, ea]
          · exact h1 x hx
        · rw [List.reverse_cons, List.append_assoc, List.map_cons, ea]; rfl
      · exact Or.inr ⟨m, List.mem_cons_of_mem _ hm, h⟩
    | _ => exact Or.inr ⟨l, List.mem_cons_self, hl.symm, fun _ h => nomatch hl.symm.trans h⟩

theorem labelToASCII_ok {l a : Bytes} (h : Idna.labelToASCII l = .ok a) :
    (l.all (· < 128) = true ∧ a = l) ∨ ∃ cps, Idna.utf8Dec l = some cps ∧ a = Idna.punyEncode cps := by
  unfold Idna.labelToASCII at h
  split at h
  · cases h
  · split at h
    · next hall => cases h; exact Or.inl ⟨hall, rfl⟩
    · split at h
      · cases h
      · next cps hc =>
        split at h
        · cases h; exact Or.inr ⟨cps, hc, rfl⟩
        · cases h

section
variable {P : UInt8 → Bool} (hP : ∀ b, ldh b = true → P b = true)
include hP

theorem all_of_ldh {s : Bytes} (h : s.all ldh = true) : s.all P = true :=
  List.all_eq_true.2 fun b hb => hP b (List.all_eq_true.1 h b hb)

theorem punyEncode_all {l : Bytes} {cps : List Nat} (h : Idna.utf8Dec l = some cps)
    (hl : ∀ b ∈ l, b < 128 → P b = true) : (Idna.punyEncode cps).all P = true := by
  unfold Idna.punyEncode
  refine encOuter_ind (fun out => out.all P = true) ?_ ?_
  · intro out d hd h
    rw [List.all_append, h, List.all_cons, hP _ (digit_ldh ⟨d, hd⟩)]; rfl
  simp only [List.all_append, Bool.and_eq_true]
  refine ⟨⟨all_of_ldh hP (by decide), ?_⟩, ?_⟩
  · rw [List.all_eq_true]
    intro b hb
    obtain ⟨n, hn, rfl⟩ := List.mem_map.1 hb
    rw [List.mem_filter, decide_eq_true_eq] at hn
    obtain ⟨hm, hv⟩ := basic_sub h hn.1 hn.2
    exact hl _ hm (by rw [UInt8.lt_iff_toNat_lt, hv]; exact hn.2)
  · split
    · exact all_of_ldh hP (by decide)
    · rfl

theorem labelToASCII_all {l a : Bytes} (h : Idna.labelToASCII l = .ok a) (hl : ∀ b ∈ l, b < 128 → P b = true) :
    a.all P = true := by
  rcases labelToASCII_ok h with ⟨hall, rfl⟩ | ⟨cps, hc, rfl⟩
  · rw [List.all_eq_true] at hall ⊢
    exact fun b hb => hl b hb (by simpa using hall b hb)
  · exact punyEncode_all hP hc hl

theorem toASCIILower_all {lh ch : Bytes} (h : Idna.toASCIILower lh = .ok ch) (hl : ∀ b ∈ lh, b < 128 → P b = true) :
    ch.all P = true := by
  rcases go_cases (splitOn 46 lh) [] with ⟨h1, h2⟩ | ⟨l, _, h1, h2⟩
  · cases h.symm.trans h2
    rw [List.all_eq_true]
    intro b hb
    rcases mem_intercalate hb with hb | ⟨a, ha, hx⟩
    · rw [List.mem_singleton.1 hb]; exact hP 46 (by decide)
    · obtain ⟨l, hl', rfl⟩ := List.mem_map.1 ha
      exact List.all_eq_true.1 (labelToASCII_all hP (h1 l hl') fun b hb => hl b (mem_splitOn hl' hb)) b hx
  · exact absurd (h1.symm.trans h) (h2 ch)

omit hP in
theorem lowerHost_ascii {w lh : Bytes} (h : Idna.lowerHost w = some lh) {b : UInt8} (hb : b ∈ lh) (hb128 : b < 128) :
    ∃ c ∈ w, c < 128 ∧ b = lowerByte c := by
  rcases lowerHost_some h with ⟨hall, rfl⟩ | ⟨cs, rfl, rfl⟩
  · obtain ⟨c, hc, e⟩ := List.mem_map.1 hb
    exact ⟨c, hc, by simpa using List.all_eq_true.1 hall c hc, e.symm⟩
  · obtain ⟨c, hc', hx⟩ := List.mem_flatMap.1 hb
    obtain ⟨he, hlt, e⟩ := lowerChar_ascii c b hx (UInt8.lt_iff_toNat_lt.1 hb128)
    exact ⟨_, List.mem_flatMap.2 ⟨c, hc', by rw [he]; exact List.mem_singleton_self _⟩, hlt, e⟩

theorem toASCII_all {w ch : Bytes} (h : Idna.toASCII w = .ok ch) (hw : ∀ c ∈ w, c < 128 → P (lowerByte c) = true) :
    ch.all P = true := by
  unfold Idna.toASCII at h
  split at h
  · cases h
  · next lh hl =>
    refine toASCIILower_all hP h fun b hb hb128 => ?_
    obtain ⟨c, hc, hc128, rfl⟩ := lowerHost_ascii hl hb hb128
    exact hw c hc hc128

end

theorem toASCII_no_colon {w ch : Bytes} (h : Idna.toASCII w = .ok ch) (hw : (58 : UInt8) ∉ w) : (58 : UInt8) ∉ ch := by
  have := toASCII_all (P := (· != 58)) (fun b hb => bne_iff_ne.2 fun e => absurd (e ▸ hb) (by decide)) h fun c hc _ =>
    bne_iff_ne.2 fun e => hw (lowerByte_eq (by decide) e ▸ hc)
  exact fun hm => by simpa using List.all_eq_true.1 this 58 hm

/-- ASCII, not upper case: all `toASCII` writes (`toASCII_lowB`), and enough for it to change nothing (`toASCII_of_lowB`) -/
def lowB (b : UInt8) : Bool := b < 128 && !(65 ≤ b && b ≤ 90)

theorem toASCII_lowB {w ch : Bytes} (h : Idna.toASCII w = .ok ch) : ch.all lowB = true :=
  toASCII_all (by decide +kernel) h fun c _ hc =>
    (by decide +kernel : ∀ c : UInt8, c < 128 → lowB (lowerByte c) = true) c hc

theorem toASCII_of_lowB {ch : Bytes} (h : ch.all lowB = true) :
    Idna.toASCII ch = .ok ch ∨ Idna.toASCII ch = .noclaim := by
  have hch : ∀ b ∈ ch, b < 128 ∧ (65 ≤ b && b ≤ 90) = false := fun b hb => by
    have := List.all_eq_true.1 h b hb
    simp only [lowB, Bool.and_eq_true, decide_eq_true_eq, Bool.not_eq_true'] at this
    exact this
  have hlow : Idna.lowerHost ch = some ch := by
    unfold Idna.lowerHost
    rw [if_pos (List.all_eq_true.2 fun b hb => by simpa using (hch b hb).1)]
    exact congrArg some
      ((List.map_congr_left fun b hb => lowerByte_of_notUpper b (hch b hb).2).trans (List.map_id ch))
  have hlab : ∀ a ∈ splitOn 46 ch, Idna.labelToASCII a = .ok a ∨ Idna.labelToASCII a = .noclaim := fun a ha => by
    unfold Idna.labelToASCII
    split
    · exact Or.inr rfl
    · rw [if_pos (List.all_eq_true.2 fun b hb => by simpa using (hch b (mem_splitOn ha hb)).1)]
      exact Or.inl rfl
  unfold Idna.toASCII
  rw [hlow]
  rcases go_cases (splitOn 46 ch) [] with ⟨-, h2⟩ | ⟨l, hl, h1, h2⟩
  · have hid : (splitOn 46 ch).map labelOut = splitOn 46 ch :=
      (List.map_congr_left fun l hl => by rcases hlab l hl with e | e <;> rw [labelOut, e] <;> rfl).trans (List.map_id _)
    rw [hid, List.reverse_nil, List.nil_append, intercalate_splitOn] at h2
    exact Or.inl h2
  · exact Or.inr (h1.trans ((hlab l hl).resolve_left fun e => h2 l e))

theorem idna_idem {w ch : Bytes} (h : Idna.toASCII w = .ok ch) :
    Idna.toASCII ch = .ok ch ∨ Idna.toASCII ch = .noclaim :=
  toASCII_of_lowB (toASCII_lowB h)

theorem hasPrefix_intercalate (a : Bytes) (as : List Bytes) :
    hasPrefix (([46] : Bytes).intercalate (a :: as)) [91] = hasPrefix a [91] := by
  cases a with
  | nil => cases as <;> rfl
  | cons x t =>
    cases as with
    | nil => rfl
    | cons b bs => rw [List.intercalate_cons_cons, List.cons_append, List.cons_append, hasPrefix_cons1, hasPrefix_cons1]

theorem toASCIILower_head {lh ch : Bytes} (h : Idna.toASCIILower lh = .ok ch) (hc : hasPrefix ch [91] = true) :
    hasPrefix lh [91] = true := by
  obtain ⟨l, ls, es, ei⟩ := splitOn_spec 46 lh
  unfold Idna.toASCIILower at h
  rw [es] at h
  rcases go_cases (l :: ls) [] with ⟨h1, h2⟩ | ⟨m, _, h1, h2⟩
  · cases h.symm.trans h2
    rw [List.reverse_nil, List.nil_append, List.map_cons, hasPrefix_intercalate] at hc
    rw [← ei, hasPrefix_intercalate]
    rcases labelToASCII_ok (h1 l List.mem_cons_self) with ⟨-, e⟩ | ⟨cps, -, e⟩
    · rw [← e]; exact hc
    · obtain ⟨t, et⟩ := punyEncode_prefix cps
      rw [e, et] at hc; cases hc
  · exact absurd (h1.symm.trans h) (h2 ch)

theorem lowerHost_head {w lh : Bytes} (h : Idna.lowerHost w = some lh) (hp : hasPrefix lh [91] = true) :
    hasPrefix w [91] = true := by
  rcases lowerHost_some h with ⟨-, rfl⟩ | ⟨cs, rfl, rfl⟩
  · rw [← hasPrefix_toLower]; exact hp
  · cases cs with
    | nil => cases hp
    | cons c cs =>
      rw [List.flatMap_cons] at hp ⊢
      cases henc : String.utf8EncodeChar (Char.ofNat (Idna.lowerCp c.toNat)) with
      | nil => exact absurd henc String.utf8EncodeChar_ne_nil
      | cons b bs =>
        rw [henc, List.cons_append, hasPrefix_cons1, beq_iff_eq] at hp
        subst hp
        obtain ⟨he, -, e⟩ := lowerChar_ascii c 91 (by rw [henc]; exact List.mem_cons_self) (by decide)
        rw [he, List.cons_append, hasPrefix_cons1, lowerByte_eq (by decide) e.symm]; rfl

theorem idna_prefix {w ch : Bytes} (h : Idna.toASCII w = .ok ch) (hp : hasPrefix w [91] = false) :
    hasPrefix ch [91] = false := by
  unfold Idna.toASCII at h
  split at h
  · cases h
  · next lh hl =>
    rw [Bool.eq_false_iff]
    intro hc
    rw [lowerHost_head hl (toASCIILower_head h hc)] at hp
    cases hp

end GN.Url.Obj
