import GN.Url.ObjSpec

/-!
# C13: "href can be parsed again by new URL() and yields the same href" — the statement

Only the statement; the proof is in `GN/Url/ReparseLemmas.lean`.
-/

namespace GN.Url.Obj
open GN GN.Url GN.Url.Net

/-- in every reachable state, feeding the shown `href` to the one-argument constructor succeeds (or leaves the
punycode model: no claim) and the URL it builds shows the same `href` -/
def ReparseStable : Prop :=
  ∀ st, Reach st →
    match construct (observe st).2.href none with
    | .ok u' => (observe { url := u' }).2.href = (observe st).2.href
    | .error .noclaim => True
    | .error _ => False

end GN.Url.Obj
