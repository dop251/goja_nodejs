import GN.Url.PathLemmas

/-!
# `cleanPath` is idempotent, for every input

Every rooted path is the rendering of some list of segments, on which `cleanPath` computes the reference normaliser
(`cleanPath_norm`): it returns nothing or the rendering of a normal form (`CleanForm`), which the normaliser leaves alone.
-/

namespace GN.Url.Obj
open GN GN.Url GN.Url.Net GN.Url.Rfc

def CleanForm (p : Bytes) : Prop := ∃ segs, NF segs ∧ p = render segs

theorem cleanForm_fixed {p proto : Bytes} (h : CleanForm p) : cleanPath p proto = p := by
  obtain ⟨segs, hnf, rfl⟩ := h
  rw [cleanPath_norm hnf.fixed.1.1 hnf.fixed.1.2.1, hnf.fixed.2]

theorem cleanForm_shape {p : Bytes} (h : CleanForm p) :
    hasPrefix p [47] = true ∧ hasPrefix p [47, 47] = false := by
  obtain ⟨_, ⟨init, l, rfl, hi, hl, -⟩, rfl⟩ := h
  refine ⟨rfl, ?_⟩
  rw [render_eq_rend (by simp)]
  exact rend_no_dslash hi.inner hl

theorem cleanPath_cases (p proto : Bytes) : (p = [] ∧ cleanPath p proto = []) ∨ CleanForm (cleanPath p proto) := by
  have hroot : (p = [] ∧ cleanPath p proto = []) ∨ ∃ y, cleanPath p proto = cleanPath (47 :: y) proto := by
    by_cases hc : (!hasPrefix p [47] && (isSpecialProtocol proto || p != [])) = true
    · exact Or.inr ⟨p, by rw [cleanPath, if_pos hc]; rfl⟩
    · cases p with
      | nil => exact Or.inl ⟨rfl, by rw [cleanPath, if_neg hc]; rfl⟩
      | cons c t =>
        -- a non-empty path is left unrooted only if it begins with a slash
        rw [hasPrefix_cons1, show (c :: t != []) = true from rfl, Bool.or_true, Bool.and_true, Bool.not_eq_true',
          Bool.not_eq_false, beq_iff_eq] at hc
        exact Or.inr ⟨t, hc ▸ rfl⟩
  refine hroot.imp_right fun ⟨y, e⟩ => ?_
  obtain ⟨s, r, hs, hr, rfl⟩ := rooted_segs y
  have hall : ∀ t ∈ s :: r, (47 : UInt8) ∉ t := List.forall_mem_cons.2 ⟨hs, hr⟩
  rw [e, show 47 :: (s ++ rend r) = render (s :: r) by rw [render, joinSegs_cons],
    cleanPath_norm (List.cons_ne_nil s r) hall]
  exact ⟨_, normSegs_nf hall, rfl⟩

theorem cleanPath_idem {p proto : Bytes} : cleanPath (cleanPath p proto) proto = cleanPath p proto := by
  rcases cleanPath_cases p proto with ⟨rfl, h⟩ | h
  · rw [h, h]
  · exact cleanForm_fixed h

end GN.Url.Obj
