import GN.Url.NetUrl
import GN.Url.ParamsLemmas

/-!
# Lemmas about the transcription of Go's `net/url` (`GN/Url/NetUrl.lean`)

`parse` is split into its prologue (control characters, `*`, scheme, query) and `parseTailV` (`parse_eq`).  The decoder
`unescape` is known by one equation per kind of byte, with the check it makes there (`litOk`, `pctOk`), and has its own
induction (`unescapeOk_ind`); the escaper is known by the class of bytes it writes (`escB`).  Everything later about parsed
URLs (the C13 invariants, the C14 resolution) goes through these.
-/

namespace GN.Url.Net
open GN GN.Url

theorem hasSuffix_iff {s p : Bytes} : hasSuffix s p = true ↔ ∃ a, s = a ++ p :=
  List.isSuffixOf_iff_suffix.trans (exists_congr fun _ => eq_comm)

theorem hasSuffix_append (a s : Bytes) : hasSuffix (a ++ s) s = true := hasSuffix_iff.2 ⟨a, rfl⟩

theorem mem_of_getLast?_append {a l : Bytes} {x : UInt8} (hl : l ≠ []) (h : (a ++ l).getLast? = some x) : x ∈ l := by
  rw [List.getLast?_append, List.getLast?_eq_some_getLast hl, Option.some_or] at h
  exact Option.some.inj h ▸ List.getLast_mem hl

theorem getLast?_of_hasSuffix {s : Bytes} {c : UInt8} (h : hasSuffix s [c] = true) : s.getLast? = some c := by
  obtain ⟨a, e⟩ := hasSuffix_iff.1 h
  rw [e, List.getLast?_append]; rfl

theorem hasPrefix_iff {s p : Bytes} : hasPrefix s p = true ↔ ∃ a, s = p ++ a :=
  List.isPrefixOf_iff_prefix.trans (exists_congr fun _ => eq_comm)

theorem hasPrefix_cons1 {c : UInt8} {t : Bytes} {x : UInt8} : hasPrefix (c :: t) [x] = (x == c) := by
  simp [hasPrefix, List.isPrefixOf]

theorem findIdx_of_not_mem {s : Bytes} {c : UInt8} (h : c ∉ s) : s.findIdx (· == c) = s.length :=
  List.findIdx_eq_length.2 fun _ hx => beq_eq_false_iff_ne.2 fun e => h (e ▸ hx)

theorem indexByte_eq_none {s : Bytes} {c : UInt8} (h : c ∉ s) : indexByte s c = none := by
  unfold indexByte
  simp [findIdx_of_not_mem h]

theorem indexByte_append {a : Bytes} (b : Bytes) {c : UInt8} (h : c ∉ a) : indexByte (a ++ c :: b) c = some a.length := by
  unfold indexByte
  have : (a ++ c :: b).findIdx (· == c) = a.length := by
    rw [List.findIdx_append, findIdx_of_not_mem h]
    simp [List.findIdx_cons]
  simp [this]

theorem lastIndexByte_eq_none {s : Bytes} {c : UInt8} (h : c ∉ s) : lastIndexByte s c = none := by
  unfold lastIndexByte
  rw [indexByte_eq_none (by simpa using h)]

theorem lastIndexByte_append {a b : Bytes} {c : UInt8} (h : c ∉ b) :
    lastIndexByte (a ++ c :: b) c = some a.length := by
  unfold lastIndexByte
  have e : (a ++ c :: b).reverse = b.reverse ++ c :: a.reverse := by simp
  rw [e, indexByte_append _ (by simpa using h)]
  simp only [List.length_append, List.length_cons, List.length_reverse]
  congr 1
  omega

theorem last_occurrence (s : Bytes) (c : UInt8) : c ∉ s ∨ ∃ a b, s = a ++ c :: b ∧ c ∉ b := by
  refine (Classical.em (c ∈ s)).symm.imp_right fun h => ?_
  -- the last occurrence is the first one of the reversed string
  obtain ⟨b, a, e, hb⟩ := List.eq_append_cons_of_mem (List.mem_reverse.2 h)
  exact ⟨a.reverse, b.reverse, by rw [← List.reverse_reverse s, e]; simp, by simpa using hb⟩

theorem cut_none {s : Bytes} {c : UInt8} (h : c ∉ s) : cut s c = (s, [], false) := by
  unfold cut; rw [indexByte_eq_none h]

theorem cut_append {a : Bytes} (b : Bytes) {c : UInt8} (h : c ∉ a) : cut (a ++ c :: b) c = (a, b, true) := by
  unfold cut; rw [indexByte_append b h]; simp

theorem cut_fst_sub (s : Bytes) (c : UInt8) : (∀ x ∈ (cut s c).1, x ∈ s) ∧ c ∉ (cut s c).1 := by
  by_cases h : c ∈ s
  · obtain ⟨a, b, e, ha⟩ := List.eq_append_cons_of_mem h
    rw [e, cut_append b ha]
    exact ⟨fun x hx => by simp [hx], ha⟩
  · rw [cut_none h]; exact ⟨fun x hx => hx, h⟩

theorem noCTL_sub {a b : Bytes} (h : ∀ c ∈ a, c ∈ b) (hb : containsCTL b = false) : containsCTL a = false := by
  unfold containsCTL at *
  rw [List.any_eq_false] at hb ⊢
  exact fun x hx => hb x (h x hx)

theorem toLowerAscii_idem (s : Bytes) : toLowerAscii (toLowerAscii s) = toLowerAscii s := by
  have h : ∀ c : UInt8, toLowerAscii (toLowerAscii [c]) = toLowerAscii [c] := by decide +kernel
  unfold toLowerAscii
  rw [List.map_map]
  exact List.map_congr_left fun c _ => (List.cons.inj (h c)).1

theorem flatMap_eq_self {f : UInt8 → Bytes} {s : Bytes} (h : ∀ c ∈ s, f c = [c]) : s.flatMap f = s := by
  rw [List.flatMap_def, List.map_congr_left h, ← List.flatMap_def, List.flatMap_singleton']

theorem indexSub_go_skip {c : UInt8} (t r : Bytes) {a : Bytes} (i : Nat) (hd : c ∉ a) :
    indexSub.go (c :: t) (a ++ r) i = indexSub.go (c :: t) r (i + a.length) := by
  induction a generalizing i with
  | nil => rfl
  | cons d a ih =>
    have hdc : (c == d) = false := by simpa using fun e : c = d => hd (e ▸ List.mem_cons_self)
    rw [List.cons_append, indexSub.go, List.isPrefixOf, hdc, Bool.false_and, if_neg Bool.false_ne_true,
      ih (i + 1) fun hm => hd (List.mem_cons_of_mem _ hm), List.length_cons]
    congr 1; omega

theorem indexSub_none {c : UInt8} (t : Bytes) {s : Bytes} (h : c ∉ s) : indexSub s (c :: t) = none := by
  have := indexSub_go_skip t [] 0 h
  rw [List.append_nil] at this
  rw [indexSub, this]; rfl

theorem indexSub_append {c : UInt8} (t : Bytes) {a : Bytes} (r : Bytes) (h : c ∉ a) :
    indexSub (a ++ c :: (t ++ r)) (c :: t) = some a.length := by
  have hp : (c :: t).isPrefixOf (c :: (t ++ r)) = true := List.isPrefixOf_iff_prefix.2 ⟨r, rfl⟩
  rw [indexSub, indexSub_go_skip t _ 0 h, Nat.zero_add, indexSub.go, if_pos hp]

theorem indexSub_go_prefix {sub s : Bytes} {i z : Nat} (h : indexSub.go sub s i = some z) :
    ∃ k, z = i + k ∧ sub.isPrefixOf (s.drop k) = true := by
  induction s generalizing i with
  | nil =>
    rw [indexSub.go] at h
    by_cases hs : (sub == []) = true
    · rw [if_pos hs] at h; cases h
      exact ⟨0, rfl, by rw [beq_iff_eq.1 hs]; rfl⟩
    · rw [if_neg hs] at h; cases h
  | cons c t ih =>
    rw [indexSub.go] at h
    by_cases hp : sub.isPrefixOf (c :: t) = true
    · rw [if_pos hp] at h; cases h; exact ⟨0, rfl, hp⟩
    · rw [if_neg hp] at h
      obtain ⟨k, e, hk⟩ := ih h
      exact ⟨k + 1, by omega, hk⟩

theorem indexSub_prefix {s sub : Bytes} {z : Nat} (h : indexSub s sub = some z) : sub.isPrefixOf (s.drop z) = true := by
  obtain ⟨k, e, hk⟩ := indexSub_go_prefix h
  rw [Nat.zero_add] at e; rw [e]; exact hk

theorem setPath_eq (u : URL) (p : Bytes) :
    setPath u p = (Net.unescape Mode.path p).map fun path =>
      { u with path := path, rawPath := if p == Net.escape Mode.path path then [] else p } := by
  unfold setPath
  cases Net.unescape Mode.path p <;> rfl

theorem setFragment_eq (u : URL) (f : Bytes) :
    setFragment u f = (Net.unescape Mode.fragment f).map fun frag =>
      { u with fragment := frag, rawFragment := if f == Net.escape Mode.fragment frag then [] else f } := by
  unfold setFragment
  cases Net.unescape Mode.fragment f <;> rfl

theorem setPath_some {u u' : URL} {p : Bytes} (h : setPath u p = some u') :
    ∃ path rp, u' = { u with path := path, rawPath := rp } := by
  rw [setPath_eq, Option.map_eq_some_iff] at h
  obtain ⟨_, _, rfl⟩ := h
  exact ⟨_, _, rfl⟩

theorem setPath_getD (u : URL) (p : Bytes) : ∃ path rp, (setPath u p).getD u = { u with path := path, rawPath := rp } := by
  cases h : setPath u p with
  | none => exact ⟨u.path, u.rawPath, rfl⟩
  | some u' => exact setPath_some h

theorem setFragment_some {u u' : URL} {f : Bytes} (h : setFragment u f = some u') :
    ∃ frag rf, u' = { u with fragment := frag, rawFragment := rf } := by
  rw [setFragment_eq, Option.map_eq_some_iff] at h
  obtain ⟨_, _, rfl⟩ := h
  exact ⟨_, _, rfl⟩

/-- what `parse` does once scheme and query are cut off -/
def parseTailV (v : Bool) (scheme rest rawQuery : Bytes) (forceQuery : Bool) : Option URL :=
  if !hasPrefix rest [47] && scheme != [] then
    some { scheme := scheme, opaq := rest, rawQuery := rawQuery, forceQuery := forceQuery }
  else if !hasPrefix rest [47] && v then none
  else if !hasPrefix rest [47] && (cut rest 47).1.contains 58 then none
  else if (scheme != [] || (!v && !hasPrefix rest [47, 47, 47])) && hasPrefix rest [47, 47] then
    let a := rest.drop 2
    let (authority, rest') := match indexByte a 47 with
      | some i => (a.take i, a.drop i)
      | none => (a, [])
    match parseAuthority authority with
    | none => none
    | some (user, host) =>
      setPath { scheme := scheme, user := user, host := host, rawQuery := rawQuery, forceQuery := forceQuery } rest'
  else
    setPath { scheme := scheme, omitHost := scheme != [] && hasPrefix rest [47],
              rawQuery := rawQuery, forceQuery := forceQuery } rest

/-- the two branches of `parse` at the query, for any continuation `F`: both are `strings.Cut` at the first `?`, and
`ForceQuery` records a `?` with nothing after it -/
theorem query_cut {α : Type} (F : Bytes → Bytes → Bool → α) (r : Bytes) :
    (if hasSuffix r [63] && countByte r 63 == 1 then F r.dropLast [] true else F (cut r 63).1 (cut r 63).2.1 false) =
      F (cut r 63).1 (cut r 63).2.1 ((cut r 63).2.2 && (cut r 63).2.1 == []) := by
  by_cases h : (hasSuffix r [63] && countByte r 63 == 1) = true
  · rw [if_pos h]
    rw [Bool.and_eq_true, beq_iff_eq] at h
    obtain ⟨a, rfl⟩ := hasSuffix_iff.1 h.1
    have hc := h.2
    rw [countByte, List.count_append, List.count_singleton_self] at hc
    rw [List.dropLast_concat, cut_append [] (List.count_eq_zero.1 (by omega))]
    rfl
  · rw [if_neg h]
    congr 1
    by_cases hm : (63 : UInt8) ∈ r
    · obtain ⟨a, b, rfl, ha⟩ := List.eq_append_cons_of_mem hm
      rw [cut_append b ha]
      cases b with
      | nil =>
        refine absurd ?_ h
        rw [hasSuffix_append a [63], countByte, List.count_append, List.count_eq_zero.2 ha]
        rfl
      | cons => rfl
    · rw [cut_none hm]; rfl

theorem parse_eq (raw : Bytes) (v : Bool) :
    Net.parse raw v =
      if containsCTL raw then none
      else if raw == [] && v then none
      else if raw == [42] then some { path := [42] }
      else match getScheme raw with
      | none => none
      | some (scheme0, rest0) =>
        parseTailV v (toLowerAscii scheme0) (cut rest0 63).1 (cut rest0 63).2.1
          ((cut rest0 63).2.2 && (cut rest0 63).2.1 == []) := by
  unfold Net.parse
  cases getScheme raw with
  | none => rfl
  | some sr =>
    obtain ⟨s0, r0⟩ := sr
    dsimp only
    rw [← query_cut (parseTailV v (toLowerAscii s0)) r0]
    -- as a pair of variables the cut computes on both sides; on the stuck term every use needs an eta step
    rcases cut r0 63 with ⟨a, b, _⟩
    cases (hasSuffix r0 [63] && countByte r0 63 == 1) <;> rfl

theorem parseAuthority_host {a : Bytes} {u : Option User} {hst : Bytes} (h : parseAuthority a = some (u, hst)) :
    ∃ b, parseHost b = some hst := by
  unfold parseAuthority at h
  split at h
  · obtain ⟨_, hp, e⟩ := Option.map_eq_some_iff.1 h
    cases e; exact ⟨a, hp⟩
  · split at h
    · cases h
    · next host hp =>
      have hb : ∃ b, parseHost b = some host := ⟨_, hp⟩
      simp only at h
      split at h
      · cases h
      · split at h
        · obtain ⟨_, _, e⟩ := Option.map_eq_some_iff.1 h
          cases e; exact hb
        · split at h
          · cases h; exact hb
          · cases h

theorem parseTailV_cases {v : Bool} {scheme rest rq : Bytes} {fq : Bool} {p : URL}
    (h : parseTailV v scheme rest rq fq = some p) :
    (p = { scheme := scheme, opaq := rest, rawQuery := rq, forceQuery := fq } ∧ hasPrefix rest [47] = false ∧
      scheme ≠ []) ∨
    (∃ user host a x, parseAuthority a = some (user, host) ∧ (x = [] ∨ hasPrefix x [47] = true) ∧
      setPath { scheme := scheme, user := user, host := host, rawQuery := rq, forceQuery := fq } x = some p) ∨
    (∃ oh, (scheme ≠ [] → hasPrefix rest [47] = true) ∧
      setPath { scheme := scheme, omitHost := oh, rawQuery := rq, forceQuery := fq } rest = some p) := by
  unfold parseTailV at h
  by_cases h1 : (!hasPrefix rest [47] && scheme != []) = true
  · rw [if_pos h1] at h
    cases h
    simp only [Bool.and_eq_true, Bool.not_eq_true', bne_iff_ne, ne_eq] at h1
    exact Or.inl ⟨rfl, h1.1, h1.2⟩
  rw [if_neg h1] at h
  by_cases h2 : (!hasPrefix rest [47] && v) = true
  · rw [if_pos h2] at h; cases h
  rw [if_neg h2] at h
  by_cases h3 : (!hasPrefix rest [47] && (cut rest 47).1.contains 58) = true
  · rw [if_pos h3] at h; cases h
  rw [if_neg h3] at h
  by_cases h4 : ((scheme != [] || (!v && !hasPrefix rest [47, 47, 47])) && hasPrefix rest [47, 47]) = true
  · rw [if_pos h4] at h
    simp only at h
    split at h
    · cases h
    · next user host ha =>
      refine Or.inr (Or.inl ⟨user, host, _, _, ha, ?_, h⟩)
      by_cases hm : (47 : UInt8) ∈ rest.drop 2
      · obtain ⟨x, y, e, hx⟩ := List.eq_append_cons_of_mem hm
        rw [e, indexByte_append y hx]
        dsimp only
        rw [List.drop_left]
        exact Or.inr rfl
      · rw [indexByte_eq_none hm]; exact Or.inl rfl
  · rw [if_neg h4] at h
    refine Or.inr (Or.inr ⟨_, fun hs => ?_, h⟩)
    have hs' : (scheme != []) = true := by simpa using hs
    rw [hs', Bool.and_true, Bool.not_eq_true, Bool.not_eq_false'] at h1
    exact h1

theorem parseHost_nil : parseHost [] = some [] := rfl

theorem parseTailV_some {v : Bool} {scheme rest rq : Bytes} {fq : Bool} {p : URL}
    (h : parseTailV v scheme rest rq fq = some p) : p.scheme = scheme ∧ ∃ b, parseHost b = some p.host := by
  rcases parseTailV_cases h with ⟨rfl, _⟩ | ⟨user, host, a, x, ha, _, hp⟩ | ⟨oh, _, hp⟩
  · exact ⟨rfl, [], parseHost_nil⟩
  · obtain ⟨_, _, rfl⟩ := setPath_some hp
    exact ⟨rfl, parseAuthority_host ha⟩
  · obtain ⟨_, _, rfl⟩ := setPath_some hp
    exact ⟨rfl, [], parseHost_nil⟩

theorem parse_some {raw : Bytes} {v : Bool} {p : URL} (h : Net.parse raw v = some p) :
    containsCTL raw = false ∧ (p = { path := [42] } ∨ ∃ scheme0 rest0, getScheme raw = some (scheme0, rest0) ∧
      parseTailV v (toLowerAscii scheme0) (cut rest0 63).1 (cut rest0 63).2.1
        ((cut rest0 63).2.2 && (cut rest0 63).2.1 == []) = some p) := by
  rw [parse_eq] at h
  by_cases h1 : containsCTL raw = true
  · rw [if_pos h1] at h; cases h
  rw [if_neg h1] at h
  refine ⟨by simpa using h1, ?_⟩
  by_cases h2 : (raw == [] && v) = true
  · rw [if_pos h2] at h; cases h
  rw [if_neg h2] at h
  by_cases h3 : (raw == [42]) = true
  · rw [if_pos h3] at h; cases h; exact Or.inl rfl
  rw [if_neg h3] at h
  cases hg : getScheme raw with
  | none => rw [hg] at h; cases h
  | some sr =>
    obtain ⟨scheme0, rest0⟩ := sr
    rw [hg] at h
    exact Or.inr ⟨scheme0, rest0, rfl, h⟩

theorem parse_host {raw : Bytes} {v : Bool} {p : URL} (h : Net.parse raw v = some p) :
    ∃ b, parseHost b = some p.host := by
  rcases (parse_some h).2 with e | ⟨_, _, _, ht⟩
  · subst e; exact ⟨[], parseHost_nil⟩
  · exact (parseTailV_some ht).2

theorem parse_lower {raw : Bytes} {v : Bool} {p : URL} (h : Net.parse raw v = some p) :
    toLowerAscii p.scheme = p.scheme := by
  rcases (parse_some h).2 with e | ⟨_, _, _, ht⟩
  · subst e; rfl
  · rw [(parseTailV_some ht).1]; exact toLowerAscii_idem _

theorem Parse_some {raw : Bytes} {p : URL} (h : Net.Parse raw = some p) :
    ∃ url, Net.parse (cut raw 35).1 false = some url ∧
      ∃ frag rf, p = { url with fragment := frag, rawFragment := rf } := by
  unfold Net.Parse at h
  simp only at h
  split at h
  · cases h
  · next url hu =>
    refine ⟨url, hu, ?_⟩
    split at h
    · cases h; exact ⟨_, _, rfl⟩
    · exact setFragment_some h

theorem Parse_host {raw : Bytes} {p : URL} (h : Net.Parse raw = some p) : ∃ b, parseHost b = some p.host := by
  obtain ⟨url, hu, _, _, rfl⟩ := Parse_some h
  exact parse_host (p := url) hu

theorem Parse_lower {raw : Bytes} {p : URL} (h : Net.Parse raw = some p) : toLowerAscii p.scheme = p.scheme := by
  obtain ⟨url, hu, _, _, rfl⟩ := Parse_some h
  exact parse_lower (p := url) hu

theorem unescape_some {m : Mode} {s r : Bytes} (h : Net.unescape m s = some r) :
    unescapeOk m s = true ∧ r = unescapeRaw m s := by
  unfold Net.unescape at h
  split at h
  · next hok => cases h; exact ⟨hok, rfl⟩
  · cases h

/-- what `unescapeRaw` makes of a byte other than `%` -/
def plusByte (m : Mode) (c : UInt8) : UInt8 := if c = 43 then (if m == .queryComponent then 32 else 43) else c

theorem plusByte_eq {m : Mode} (h : (m == .queryComponent) = false) (c : UInt8) : plusByte m c = c := by
  rw [plusByte, h]
  split
  · next e => exact e.symm
  · rfl

/-- the check `unescapeOk` makes on a byte other than `%` -/
def litOk (m : Mode) (c : UInt8) : Bool := !(c != 43 && (m == .host || m == .zone) && c < 128 && shouldEscape c m)

/-- the check `unescapeOk` makes on a well-formed `%xy` -/
def pctOk (m : Mode) (x y : UInt8) : Bool :=
  !(m == .host && unhex x < 8 && !(x == 50 && y == 53)) &&
  !(m == .zone && !(x == 50 && y == 53) && (unhex x <<< 4 ||| unhex y) != 32 &&
    shouldEscape (unhex x <<< 4 ||| unhex y) .host)

theorem raw_cons_ne {m : Mode} {c : UInt8} {rest : Bytes} (h : c ≠ 37) :
    unescapeRaw m (c :: rest) = plusByte m c :: unescapeRaw m rest := by
  unfold plusByte
  by_cases h43 : c = 43
  · subst h43; rw [if_pos rfl, unescapeRaw]
  · rw [if_neg h43, unescapeRaw]
    · exact fun _ _ _ e _ => h e
    · exact h43

theorem raw_pct {m : Mode} {x y : UInt8} {rest : Bytes} :
    unescapeRaw m (37 :: x :: y :: rest) = (unhex x <<< 4 ||| unhex y) :: unescapeRaw m rest := by
  rw [unescapeRaw]

theorem unescapeOk_cons {m : Mode} {c : UInt8} {rest : Bytes} (h : c ≠ 37) :
    unescapeOk m (c :: rest) = (litOk m c && unescapeOk m rest) := by
  rw [unescapeOk, litOk, Bool.if_false_left, Bool.decide_eq_true]
  · exact fun _ _ _ e _ => h e
  · exact h

theorem unescapeOk_pct {m : Mode} {x y : UInt8} {rest : Bytes} :
    unescapeOk m (37 :: x :: y :: rest) = (isHex x && isHex y && pctOk m x y && unescapeOk m rest) := by
  rw [unescapeOk, pctOk]
  simp only [Bool.if_false_left, Bool.decide_eq_true, Bool.not_not, Bool.and_assoc]

theorem litOk_pctOk_of_not_host {m : Mode} (hh : (m == .host) = false) (hz : (m == .zone) = false) (x y : UInt8) :
    litOk m x = true ∧ pctOk m x y = true := by
  unfold litOk pctOk
  rw [hh, hz]
  simp

/-- Used as `refine unescapeOk_ind (fun s => …) ?nil ?pct ?byte s h`: the hypothesis is not part of the motive. -/
theorem unescapeOk_ind {m : Mode} (P : Bytes → Prop) (nil : P [])
    (pct : ∀ a b t, unescapeOk m (37 :: a :: b :: t) = true → P t → P (37 :: a :: b :: t))
    (byte : ∀ c t, c ≠ 37 → unescapeOk m (c :: t) = true → P t → P (c :: t)) :
    ∀ s, unescapeOk m s = true → P s
  | [], _ => nil
  | c :: t, hok => by
    by_cases hc : c = 37
    · subst hc
      match t, hok with
      | [], hok => cases hok
      | [x], hok => cases hok
      | a :: b :: t, hok => exact pct a b t hok (unescapeOk_ind P nil pct byte t
          (Bool.and_eq_true_iff.1 (unescapeOk_pct ▸ hok)).2)
    · exact byte c t hc hok (unescapeOk_ind P nil pct byte t
        (Bool.and_eq_true_iff.1 (unescapeOk_cons hc ▸ hok)).2)

/-- no escape straddles a byte that is no hex digit -/
theorem unescape_split {m : Mode} {A : Bytes} {b : UInt8} {B : Bytes} (hb : isHex b = false)
    (hok : unescapeOk m (A ++ b :: B) = true) :
    unescapeOk m A = true ∧ unescapeOk m (b :: B) = true ∧
    unescapeRaw m (A ++ b :: B) = unescapeRaw m A ++ unescapeRaw m (b :: B) := by
  suffices ∀ s, unescapeOk m s = true → ∀ A, s = A ++ b :: B → unescapeOk m A = true ∧ unescapeOk m (b :: B) = true ∧
      unescapeRaw m s = unescapeRaw m A ++ unescapeRaw m (b :: B) from this _ hok A rfl
  refine unescapeOk_ind _ ?_ ?_ ?_
  · intro A e; cases A <;> cases e
  · intro x y t hok' ih A e
    have hxy := hok'
    rw [unescapeOk_pct, Bool.and_eq_true] at hxy
    match A, e with
    | [], e => cases e; exact ⟨rfl, hok', rfl⟩
    | [_], e => cases e; rw [hb] at hxy; cases hxy.1
    | [_, _], e => cases e; rw [hb, Bool.and_false] at hxy; cases hxy.1
    | _ :: _ :: _ :: A', e =>
      cases e
      obtain ⟨h1, h2, h3⟩ := ih A' rfl
      exact ⟨by rw [unescapeOk_pct, hxy.1, h1]; rfl, h2, by rw [raw_pct, raw_pct, h3]; rfl⟩
  · intro c t hc hok' ih A e
    match A, e with
    | [], e => cases e; exact ⟨rfl, hok', rfl⟩
    | _ :: A', e =>
      cases e
      obtain ⟨h1, h2, h3⟩ := ih A' rfl
      rw [unescapeOk_cons hc, Bool.and_eq_true] at hok'
      exact ⟨by rw [unescapeOk_cons hc, hok'.1, h1]; rfl, h2,
        by rw [raw_cons_ne hc, raw_cons_ne hc, h3]; rfl⟩

theorem raw_bracket (m : Mode) (t : Bytes) : unescapeRaw m (91 :: t) = 91 :: unescapeRaw m t := by
  rw [raw_cons_ne (by decide)]; rfl

/-- net/url's hex digit is the one of url/escape.go -/
theorem hexU_eq : ∀ {n : UInt8}, n < 16 → hexU n = upperHexDigit n := by decide +kernel

theorem hexU_roundtrip (c : UInt8) :
    isHex (hexU (c >>> 4)) = true ∧ isHex (hexU (c &&& 15)) = true ∧
    (unhex (hexU (c >>> 4)) <<< 4 ||| unhex (hexU (c &&& 15))) = c := by
  obtain ⟨h1, h2, -⟩ := nibbles c
  rw [hexU_eq h1, hexU_eq h2]
  exact hex_roundtrip c

theorem unhex_hi : ∀ {x : UInt8}, ¬ unhex x < 8 → (128 : UInt8) ≤ unhex x <<< 4 := by decide +kernel

theorem pct_host_byte {x y : UInt8} (h : pctOk .host x y = true) :
    (unhex x <<< 4 ||| unhex y) = 37 ∨ (128 : UInt8) ≤ (unhex x <<< 4 ||| unhex y) := by
  rw [pctOk, Bool.and_eq_true, Bool.not_eq_true'] at h
  have h := h.1
  by_cases hlt : unhex x < 8
  · rw [decide_eq_true hlt, show (Mode.host == Mode.host) = true from rfl, Bool.true_and, Bool.true_and,
      Bool.not_eq_false', Bool.and_eq_true, beq_iff_eq, beq_iff_eq] at h
    rw [h.1, h.2]; exact Or.inl rfl
  · refine Or.inr (UInt8.le_iff_toNat_le.2 (Nat.le_trans (UInt8.le_iff_toNat_le.1 (unhex_hi hlt)) ?_))
    rw [UInt8.toNat_or]; exact Nat.left_le_or

theorem raw_host_first {a : Bytes} (hp : hasPrefix a [91] = false) (hok : unescapeOk .host a = true) :
    hasPrefix (unescapeRaw .host a) [91] = false := by
  cases a with
  | nil => rfl
  | cons c t =>
    by_cases hc : c = 37
    · subst hc
      match t, hok with
      | [], hok | [_], hok => cases hok
      | x :: y :: t, hok =>
        rw [unescapeOk_pct] at hok
        simp only [Bool.and_eq_true] at hok
        rw [raw_pct, hasPrefix_cons1]
        rcases pct_host_byte hok.1.2 with e | hge
        · rw [e]; rfl
        · exact beq_eq_false_iff_ne.2 fun e => absurd (e ▸ hge : (128 : UInt8) ≤ 91) (by decide)
    · rw [hasPrefix_cons1] at hp
      rw [raw_cons_ne hc, hasPrefix_cons1, plusByte_eq rfl]
      exact hp

theorem unescapeRaw_eq_nil {m : Mode} {r : Bytes} (h : unescapeRaw m r = []) : r = [] := by
  cases r with
  | nil => rfl
  | cons c t =>
    exfalso
    by_cases hc : c = 37
    · subst hc
      match t with
      | [] | [_] | _ :: _ :: _ => cases h
    · rw [raw_cons_ne hc] at h; cases h

theorem setPath_rawPath {u p : URL} {x : Bytes} (h : setPath u x = some p) :
    (p.rawPath = [] ∨ p.rawPath = x) ∧ (p.path = [] → p.rawPath = []) := by
  rw [setPath_eq, Option.map_eq_some_iff] at h
  obtain ⟨path, hu, rfl⟩ := h
  dsimp only
  by_cases he : (x == Net.escape Mode.path path) = true
  · rw [if_pos he]; exact ⟨Or.inl rfl, fun _ => rfl⟩
  · rw [if_neg he]
    refine ⟨Or.inr rfl, fun hp => ?_⟩
    subst hp
    exact unescapeRaw_eq_nil (unescape_some hu).2.symm

/-- `escape` in mode `m'`, then `unescape` in mode `m`: a host is written as `.host` and read as `.host` or `.zone` -/
theorem unescape_escByte_of {m m' : Mode} {c : UInt8} (rest : Bytes) (hq : (m' == .queryComponent) = false)
    (h37 : shouldEscape 37 m' = true)
    (hp : shouldEscape c m' = true → pctOk m (hexU (c >>> 4)) (hexU (c &&& 15)) = true)
    (hl : shouldEscape c m' = false → litOk m c = true ∧ plusByte m c = c) :
    unescapeOk m (escByte m' c ++ rest) = unescapeOk m rest ∧
    unescapeRaw m (escByte m' c ++ rest) = c :: unescapeRaw m rest := by
  rw [escByte, hq, Bool.and_false, if_neg Bool.false_ne_true]
  cases hs : shouldEscape c m' with
  | true =>
    obtain ⟨h1, h2, h3⟩ := hexU_roundtrip c
    rw [if_pos rfl, List.cons_append, List.cons_append, List.cons_append, List.nil_append, unescapeOk_pct, raw_pct, h1,
      h2, h3, hp hs]
    exact ⟨rfl, rfl⟩
  | false =>
    obtain ⟨h1, h2⟩ := hl hs
    have h37 : c ≠ 37 := fun e => by rw [e, h37] at hs; cases hs
    rw [if_neg Bool.false_ne_true, List.cons_append, List.nil_append, unescapeOk_cons h37, raw_cons_ne h37, h1, h2]
    exact ⟨rfl, rfl⟩

theorem unescape_escape_of (m m' : Mode) (s : Bytes)
    (h : ∀ c ∈ s, ∀ rest, unescapeOk m (escByte m' c ++ rest) = unescapeOk m rest ∧
      unescapeRaw m (escByte m' c ++ rest) = c :: unescapeRaw m rest) :
    unescapeOk m (escape m' s) = true ∧ unescapeRaw m (escape m' s) = s := by
  induction s with
  | nil => exact ⟨rfl, rfl⟩
  | cons c t ih =>
    obtain ⟨e1, e2⟩ := h c List.mem_cons_self (escape m' t)
    obtain ⟨i1, i2⟩ := ih fun x hx => h x (List.mem_cons_of_mem _ hx)
    rw [escape, List.flatMap_cons, ← escape, e1, e2, i1, i2]
    exact ⟨rfl, rfl⟩

theorem not_mem_of_all {s : Bytes} {P : UInt8 → Bool} (h : s.all P = true) {c : UInt8} (hc : P c = false) : c ∉ s :=
  fun hm => by rw [List.all_eq_true.1 h c hm] at hc; cases hc

theorem noCTL_of_all {s : Bytes} {P : UInt8 → Bool} (h : s.all P = true)
    (hP : ∀ c : UInt8, (c < 32 || c == 127) = true → P c = false) : containsCTL s = false := by
  unfold containsCTL
  rw [List.any_eq_false]
  exact fun x hx hc => not_mem_of_all h (hP x hc) hx

/-- the bytes `escape` emits -/
def escB (m : Mode) (c : UInt8) : Bool := c == 37 || c == 43 || isHex c || !shouldEscape c m

theorem escape_all (m : Mode) (s : Bytes) : (Net.escape m s).all (escB m) = true := by
  rw [Net.escape, List.all_flatMap, List.all_eq_true]
  intro c _
  obtain ⟨h1, h2, -⟩ := hexU_roundtrip c
  unfold Net.escByte
  split
  · rfl
  · split
    · simp only [List.all_cons, List.all_nil, escB, h1, h2, Bool.or_true, Bool.true_or, Bool.and_self, beq_self_eq_true]
    · next h => simp only [List.all_cons, List.all_nil, escB, h, Bool.not_false, Bool.or_true, Bool.and_self]

/-- the byte test of `validEncoded` -/
def encB (m : Mode) (c : UInt8) : Bool :=
  [33, 36, 38, 39, 40, 41, 42, 43, 44, 59, 61, 58, 64, 91, 93, 37].contains c || !shouldEscape c m

theorem validEncoded_eq (s : Bytes) (m : Mode) : validEncoded s m = s.all (encB m) := rfl

theorem isHex_alnum : ∀ {c : UInt8}, isHex c = true → (isAlpha c || isDigit c) = true := by decide +kernel

theorem encB_of_escB {m : Mode} {c : UInt8} (h : escB m c = true) : encB m c = true := by
  simp only [escB, Bool.or_eq_true, beq_iff_eq] at h
  rcases h with ((rfl | rfl) | h) | h
  · rfl
  · rfl
  · have : shouldEscape c m = false := by unfold shouldEscape; rw [if_pos (isHex_alnum h)]
    rw [encB, this]; exact Bool.or_true _
  · rw [encB, h]; exact Bool.or_true _

theorem validEncoded_escape (m : Mode) (s : Bytes) : validEncoded (Net.escape m s) m = true := by
  rw [validEncoded_eq, List.all_eq_true]
  exact fun c hc => encB_of_escB (List.all_eq_true.1 (escape_all m s) c hc)

theorem escape_append (m : Mode) (a b : Bytes) : Net.escape m (a ++ b) = Net.escape m a ++ Net.escape m b := by
  simp [Net.escape]

theorem escByte_host_cases (c : UInt8) :
    Net.escByte .host c = [c] ∨ Net.escByte .host c = [37, hexU (c >>> 4), hexU (c &&& 15)] := by
  cases hs : shouldEscape c .host <;> simp [Net.escByte, hs]

/-- The three outcomes of `ResolveReference` for a reference without a scheme: its own authority and its path resolved
against nothing; the base's authority and its path resolved against the base's; or an opaque part (its own, or the base's
when its own path is empty), with host and path dropped. -/
theorem resolveReference_rel {u ref t : URL} (hs : ref.scheme = []) (ht : resolveReference u ref = t) :
    t.scheme = u.scheme ∧
    ((t.opaq = ref.opaq ∧
        ((t.host = ref.host ∧ ∃ w, t = (setPath w (resolvePath ref.escapedPath [])).getD w) ∨
          (t.host = u.host ∧ ∃ w, t = (setPath w (resolvePath u.escapedPath ref.escapedPath)).getD w))) ∨
      (t.host = [] ∧ t.path = [] ∧ t.rawPath = ref.rawPath ∧
        ((t.opaq = ref.opaq ∧ ref.opaq ≠ []) ∨ (t.opaq = u.opaq ∧ ref.path = [])))) := by
  have hs' : (ref.scheme == []) = true := by rw [hs]; rfl
  subst ht
  unfold resolveReference
  rw [if_pos hs']
  by_cases h1 : (ref.scheme != [] || ref.host != [] || ref.user.isSome) = true
  · rw [if_pos h1]
    obtain ⟨_, _, e⟩ := setPath_getD { ref with scheme := u.scheme } (resolvePath ref.escapedPath [])
    exact ⟨by rw [e], Or.inl ⟨by rw [e], Or.inl ⟨by rw [e], _, rfl⟩⟩⟩
  rw [if_neg h1]
  by_cases h2 : (ref.opaq != []) = true
  · rw [if_pos h2]; exact ⟨rfl, Or.inr ⟨rfl, rfl, rfl, Or.inl ⟨rfl, bne_iff_ne.1 h2⟩⟩⟩
  rw [if_neg h2]
  dsimp only
  -- an empty reference also takes the base's query and fragment: nothing the cases look at
  generalize hw : (if (ref.path == [] && !ref.forceQuery && ref.rawQuery == []) = true then _ else _ : URL) = w
  have hf : w.scheme = u.scheme ∧ w.opaq = ref.opaq ∧ w.rawPath = ref.rawPath := by
    subst hw
    split
    · split
      · exact ⟨rfl, rfl, rfl⟩
      · exact ⟨rfl, rfl, rfl⟩
    · exact ⟨rfl, rfl, rfl⟩
  by_cases h3 : (ref.path == [] && u.opaq != []) = true
  · rw [if_pos h3]
    exact ⟨hf.1, Or.inr ⟨rfl, rfl, hf.2.2, Or.inr ⟨rfl, beq_iff_eq.1 (Bool.and_eq_true_iff.1 h3).1⟩⟩⟩
  · rw [if_neg h3]
    obtain ⟨_, _, e⟩ := setPath_getD { w with host := u.host, user := u.user } (resolvePath u.escapedPath ref.escapedPath)
    exact ⟨by rw [e]; exact hf.1, Or.inl ⟨by rw [e]; exact hf.2.1, Or.inr ⟨by rw [e], _, rfl⟩⟩⟩

end GN.Url.Net
