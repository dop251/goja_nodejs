import GN.Url.HostOK
import GN.Url.ParseFacts
import GN.Url.ResolveWF
import GN.Url.CleanIdem

/-!
# C13: "href can be parsed again by `new URL()` and yields the same href" — the invariant and the theorem

`UrlInv` collects what is true of the URL of every reachable state (`urlInv_reach`, by `Reach.url_induct`).  Together with
the invariant of the query (`QInv`) it gives the layout and the normal-form conditions of `GN/Url/ReparseLayout.lean` for
the synchronised URL (`lay_normOK_reach`), hence `reparseStable`.

The raw path needs one fact about `ResolveReference`: the path it hands to `setPath` has well-formed escapes, so
`setPath` does not fail and the raw path of the reference (which need not start with `/`) is never kept.
-/

namespace GN.Url.Obj
open GN GN.Url GN.Url.Net

theorem setPath_getD_raw {u0 : URL} {x : Bytes} (h : WF x ∧ (x = [] ∨ hasPrefix x [47] = true)) :
    ((setPath u0 x).getD u0).rawPath = [] ∨ hasPrefix ((setPath u0 x).getD u0).rawPath [47] = true := by
  obtain ⟨p, hp⟩ := setPath_wf u0 h.1
  rw [hp, Option.getD_some]
  rcases (setPath_rawPath hp).1 with e | e <;> rw [e]
  · exact Or.inl rfl
  · exact h.2

theorem resolveReference_raw (u ref : URL) (hs : ref.scheme = []) (ho : ref.opaq = [])
    (hr : ref.path = [] → ref.rawPath = []) :
    (resolveReference u ref).rawPath = [] ∨ hasPrefix (resolveReference u ref).rawPath [47] = true := by
  -- the path was resolved against nothing, or against the base's path, or dropped next to an opaque part
  rcases (resolveReference_rel hs rfl).2 with ⟨-, ⟨-, w, e⟩ | ⟨-, w, e⟩⟩ | ⟨-, -, e, h⟩
  · rw [e]; exact setPath_getD_raw (resolvePath_wf (escapedPath_wf ref) wf_nil)
  · rw [e]; exact setPath_getD_raw (resolvePath_wf (escapedPath_wf u) (escapedPath_wf ref))
  · rcases h with ⟨-, h⟩ | ⟨-, h⟩
    · exact absurd ho h
    · exact Or.inl (e.trans (hr h))

/-- as the operations establish it (`path`: fixed by `cleanPath`); the shapes `Lay` asks for follow in `lay_normOK_reach` -/
structure UrlInv (u : URL) : Prop where
  scheme : validScheme u.scheme = true
  lower : toLowerAscii u.scheme = u.scheme
  opaq : u.opaq ≠ [] → OpaqOK u.opaq ∧ isSpecialNetProtocol u.scheme = false
  path : cleanPath u.path u.scheme = u.path
  rawPath : u.rawPath = [] ∨ hasPrefix u.rawPath [47] = true
  host : HostOK u.scheme u.host

theorem normalizeURL_nonempty {v u : URL} (h : normalizeURL v = .ok u) (hh : v.host = []) (hp : v.path = []) :
    isSpecialNetProtocol v.scheme = false := by
  rw [normalizeURL_eq, hh, hp] at h
  cases hs : isSpecialNetProtocol v.scheme with
  | false => rfl
  | true => rw [hs] at h; cases h

theorem built_urlInv {u : URL} (h : Built u) : UrlInv u := by
  have hh := built_hostOK h
  induction h with
  | parsed hp hs hn =>
    obtain ⟨_, _, rfl⟩ := normalizeURL_shape hn
    obtain ⟨_, h35, hP⟩ := Parse_parsed hp
    exact ⟨hP.scheme.resolve_left hs, (Parse_lower hp :),
      fun ho => ⟨hP.opaq ho h35, (normalizeURL_nonempty hn (hP.alone ho).1 (hP.alone ho).2.1 :)⟩,
      cleanPath_idem, hP.rawSlash hs, hh⟩
  | @resolved _ base ref _ hB hr hs hn ih =>
    obtain ⟨_, _, rfl⟩ := normalizeURL_shape hn
    obtain ⟨_, -, hP⟩ := Parse_parsed hr
    have ho : ref.opaq = [] := Classical.byContradiction fun ho => (hP.alone ho).2.2 hs
    have hb := ih (built_hostOK hB)
    obtain ⟨e1, e2⟩ := resolveReference_rel (u := base) hs rfl
    refine ⟨e1 ▸ hb.scheme, e1 ▸ hb.lower, fun hne => ?_, cleanPath_idem, resolveReference_raw base ref hs ho hP.rawNil,
      hh⟩
    -- an opaque part can only be the base's, taken over with host and path dropped
    rcases e2 with ⟨e, -⟩ | ⟨eh, ep, -, h⟩
    · exact absurd (e.trans ho) hne
    · rcases h with ⟨-, h⟩ | ⟨e, -⟩
      · exact absurd ho h
      · exact ⟨e ▸ (hb.opaq (e ▸ hne)).1, (normalizeURL_nonempty hn eh ep :)⟩

theorem urlInv_move {u u' : URL} (hi : UrlInv u) (h : UMove u u') : UrlInv u' := by
  have hh := hostOK_move hi.host h
  cases h with
  | protocol v u1 hp hop hf =>
    obtain ⟨_, e⟩ := dropDefaultPort_shape u1
    obtain ⟨_, _, e1⟩ := fixURL_shape hf
    rw [e, e1] at hh ⊢
    obtain ⟨p, hp, hps⟩ := hp
    refine ⟨parse_scheme_valid (rest := 47 :: 47 :: u.host) (by simpa [ParseRequestURI] using hp) hps, toLowerAscii_idem _,
      fun hne => ⟨(hi.opaq hne).1, ?_⟩, cleanPath_idem, hi.rawPath, hh⟩
    cases hs : isSpecialNetProtocol (protocolScheme v) with
    | false => rfl
    | true => exact absurd (hop hs) hne
  | host _ u1 _ hf =>
    obtain ⟨_, e⟩ := dropDefaultPort_shape u1
    obtain ⟨_, _, e1⟩ := fixURL_shape hf
    rw [e, e1] at hh ⊢
    exact { hi with path := cleanPath_idem, host := hh }
  | hostname _ _ _ _ hf =>
    obtain ⟨_, _, e1⟩ := fixURL_shape hf
    rw [e1] at hh ⊢
    exact { hi with path := cleanPath_idem, host := hh }
  | port v =>
    obtain ⟨_, e⟩ := setURLPort_shape u v
    rw [e] at hh ⊢
    exact { hi with host := hh }
  | pathname v => exact { hi with path := cleanPath_idem }
  | user | hash | query => exact { hi with }

theorem urlInv_reach {st : St} (h : Reach st) : UrlInv st.url := h.url_induct built_urlInv urlInv_move

theorem lay_normOK_reach {st : St} (hr : Reach st) : Lay st.sync.url ∧ NormOK st.sync.url := by
  have hr' : Reach st.sync := Reach.read st hr
  generalize st.sync = s at hr'
  have hi := urlInv_reach hr'
  obtain ⟨h1, h2, h3⟩ := hostOK_normOK hi.host
  refine ⟨⟨hi.scheme, hi.lower, fun hne => (hi.opaq hne).1, ?_, hi.rawPath, (qinv_reach hr').1, ?_⟩,
    ⟨fun hne => (hi.opaq hne).2, hi.path, h1, h2, h3⟩⟩
  · exact hi.path ▸ (cleanPath_cases _ _).imp And.right cleanForm_shape
  · rw [hostStr_eq]; exact hostOK_parse hi.host

section
-- folded: unfolded, each `exact` below would compare two `match`es on the stuck `construct …`, evaluating it first
attribute [local irreducible] ReparseOK

theorem reach_reparseOK {st : St} (hr : Reach st) : ReparseOK st :=
  reparseOK_of (lay_normOK_reach hr).1 (lay_normOK_reach hr).2

/-- `reparseStable` under a hypothesis it does not need: every reachable state with a plain ASCII host (no `%`, no IDN
bytes, no IPv6 zone id) shows an `href` that parses again to the same `href` -/
theorem reparseStable_partial_simpleHostOnly (st : St) (hr : Reach st) (hh : HostSimple st.url.host) : ReparseOK st :=
  reach_reparseOK hr

/-- `reparseStable` under a hypothesis it does not need: a bracketed host is plain ASCII (no zone id with `%`) -/
theorem reparseStable_partial_noZone (st : St) (hr : Reach st)
    (hb : hasPrefix st.url.host [91] = true → HostSimple st.url.host) : ReparseOK st :=
  reach_reparseOK hr

/-- **"href can be parsed again by `new URL()` and yields the same href"**, for every reachable state of the URL
object: the constructor accepts the shown `href` and shows the same one, or the host leaves the punycode model (it has
an `xn--` label — as every host has that `idna.Punycode.ToASCII` changed), for which no claim is made -/
theorem reparseStable : ReparseStable := by
  intro st hr
  have h := reach_reparseOK hr
  unfold ReparseOK at h
  -- the `match` of `ReparseStable` and that of `ReparseOK` are two compiled copies; comparing them on the stuck term
  -- `construct …` evaluates it as far as it goes, on a variable it is one step
  generalize construct (observe st).2.href none = r at h ⊢
  cases r with
  | ok u => exact h
  | error e => cases e <;> exact h

end

end GN.Url.Obj
