import GN.Url.UrlObj

/-!
# C13: reachable states of the URL object and the statements claimed about them

Only definitions and statements (as `Prop`-valued definitions); the proofs are in `GN/Url/ObjLemmas.lean` and `GN/Url/HostOK.lean`,
the property theorems in `GN/Props/C13.lean` (`HostIsHostnamePort` and `DefaultPortHidden` are proved there, from `HostOK.obs`).
-/

namespace GN.Url.Obj
open GN GN.Url GN.Url.Net

/-- every state a script can bring a URL object into: construct it, then any sequence of setter assignments and
searchParams operations that return normally (one that throws leaves the state as it was), with getters read at any
point in between (reading `href`, `toString()`, `toJSON()` or `search` synchronises the query) -/
inductive Reach : St → Prop where
  | ctor (s : Bytes) (base : Option Bytes) (u : URL) : construct s base = .ok u → Reach { url := u }
  | step (st st' : St) (op : Op) : Reach st → step st op = .ok st' → Reach st'
  | read (st : St) : Reach st → Reach (observe st).1

/-- the query as the getters show it -/
def shownQuery (o : Obs) : Bytes := o.search.drop 1

/-- **searchParams lists exactly the pairs of the query**, in every reachable state in which a searchParams object
exists — in particular right after `search` or `href` was assigned and right after searchParams was changed; and
`search` is `''` or `'?'` followed by that (non-empty) query -/
def SearchParamsCoherent : Prop :=
  ∀ st, Reach st →
    let o := (observe st).2
    (o.search = [] ∨ ∃ q, q ≠ [] ∧ o.search = 63 :: q) ∧
    ∀ l, o.params = some l → parseParams (shownQuery o) = l

/-- … and `href` (= `toString()` = `toJSON()`: one function in the model, three getters compared with it by the
correspondence) is the serialisation of the same synchronised state `search` is read from -/
def HrefShowsQuery : Prop :=
  ∀ st, Reach st →
    let s := (observe st).1
    let o := (observe st).2
    o.href = s.url.str ∧ o.search = (if s.url.rawQuery != [] then 63 :: s.url.rawQuery else []) ∧
    (observe s).2 = o

/-- **host is hostname plus `:`port when a port is present** -/
def HostIsHostnamePort : Prop :=
  ∀ st, Reach st →
    let o := (observe st).2
    o.host = o.hostname ++ (if o.port = [] then [] else 58 :: o.port)

/-- **the default port of the current scheme is never shown** -/
def DefaultPortHidden : Prop :=
  ∀ st, Reach st → ∀ n, atoi (observe st).2.port = some n → isDefaultURLPort st.url.scheme n = false

/-- the shown port is a decimal number (or absent) -/
def PortIsNumber : Prop :=
  ∀ st, Reach st → (observe st).2.port.all isDigit = true

/-- percent-encoding is lossless: what `href` shows for the path, the fragment and the userinfo decodes to the stored
value again (the component-level half of "href can be parsed again") -/
def EscapeRoundTrip : Prop :=
  ∀ (m : Mode) (s : Bytes), (m = .path ∨ m = .fragment ∨ m = .userPassword) → Net.unescape m (Net.escape m s) = some s

/-- the query escaper is idempotent and leaves a serialised searchParams list alone (so re-normalising a URL never
changes its query) -/
def QueryEscapeStable : Prop :=
  (∀ q, escapeQuery (escapeQuery q) = escapeQuery q) ∧ (∀ l : Params, escapeQuery (serialize l) = serialize l)

end GN.Url.Obj
