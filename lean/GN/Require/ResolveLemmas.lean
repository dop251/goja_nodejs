import GN.Require.Resolve

/-!
# require(): every search is "first hit in its candidate list"   [C02]

Each nested search of `GN.Require.Resolve` (`loadAsFile` … `loadNodeModules`), for any state type and any loader, is
`tryList` over the candidate list that stands beside it there (`…_eq`): the searches chain "go on if the result is
`none`" just as `tryList` does over an appended list (`tryList_append`).  With a loader that only probes the tree
(`probeLoad`), `tryList` is the selection `specSelect` in which C02 is stated.
-/

namespace GN.Require
open GN

section
variable {σ ε : Type} (env : Env) (load : σ → Path → σ × Res ε)

theorem tryList_append (st : σ) (a b : List Path) :
    tryList load st (a ++ b) =
      match tryList load st a with
      | (st, .none) => tryList load st b
      | r => r := by
  induction a generalizing st with
  | nil => rfl
  | cons c cs ih =>
    simp only [List.cons_append, tryList]
    rcases h : load st c with ⟨st1, r1⟩
    cases r1 <;> simp [ih]

theorem tryList_one (st : σ) (c : Path) : tryList load st [c] = load st c := by
  rw [tryList]
  rcases load st c with ⟨st1, r1⟩
  cases r1 <;> rfl

/- In the proofs below, once the candidate list is split (`tryList_append`) and the parts are rewritten, both sides are
the same `match` on the first result; `rfl` identifies the copy of that `match` compiled with the function in `Resolve`
with the one compiled with `tryList_append` here. -/

theorem loadAsFile_eq (st : σ) (p : Path) : loadAsFile load st p = tryList load st (fileCands p) := by
  simp only [fileCands, ↓tryList_one, tryList]
  rfl

theorem loadIndex_eq (st : σ) (p : Path) : loadIndex env load st p = tryList load st (indexCands env p) := by
  simp only [indexCands, ↓tryList_one, tryList]
  rfl

theorem loadAsDirectory_eq (st : σ) (p : Path) :
    loadAsDirectory env load st p = tryList load st (dirCands env p) := by
  unfold loadAsDirectory dirCands
  cases env.pkgMain (env.join p "package.json") with
  | none => exact loadIndex_eq env load st p
  | some m =>
    simp only [tryList_append, loadAsFile_eq, loadIndex_eq]
    rfl

theorem loadAsFileOrDirectory_eq (st : σ) (p : Path) :
    loadAsFileOrDirectory env load st p = tryList load st (fodCands env p) := by
  simp only [loadAsFileOrDirectory, fodCands, tryList_append, loadAsFile_eq, loadAsDirectory_eq]
  rfl

theorem loadGlobalFolders_eq (st : σ) (modpath : Path) (ds : List Path) :
    loadGlobalFolders env load st modpath ds =
      tryList load st (ds.flatMap fun d => fodCands env (env.join d modpath)) := by
  induction ds generalizing st with
  | nil => rfl
  | cons d ds ih =>
    simp only [loadGlobalFolders, loadNodeModule, List.flatMap_cons, tryList_append, loadAsFileOrDirectory_eq, ih]
    rfl

theorem walkNodeModules_eq (modpath : Path) (fuel : Nat) (st : σ) (start : Path) :
    walkNodeModules env load modpath fuel st start =
      tryList load st ((nmDirs env fuel start).flatMap fun d => fodCands env (env.join d modpath)) := by
  induction fuel generalizing st start with
  | zero => rfl
  | succ fuel ih =>
    simp only [walkNodeModules, nmDirs, loadNodeModule, loadAsFileOrDirectory_eq, ih]
    generalize (if env.base start ≠ "node_modules" then env.join start "node_modules" else start) = p
    by_cases hs : start = ".."
    · simp only [hs, if_true, List.flatMap_cons, List.flatMap_nil, tryList_append]
      rfl
    · by_cases hp : env.dir start = start
      · simp only [hs, hp, if_true, if_false, List.flatMap_cons, List.flatMap_nil, tryList_append]
        rfl
      · simp only [hs, hp, if_false, List.flatMap_cons, tryList_append]
        rfl

theorem loadNodeModules_eq (fuel : Nat) (st : σ) (modpath start : Path) :
    loadNodeModules env load fuel st modpath start = tryList load st (nmCands env fuel modpath start) := by
  simp only [loadNodeModules, nmCands, List.flatMap_append, tryList_append, loadGlobalFolders_eq, walkNodeModules_eq]
  rfl
end

/-- what the SourceLoader says about a path as a module file -/
inductive Probe where
  | missing            -- ModuleFileDoesNotExistError (or a directory)
  | failure            -- any other loader error
  | file (id : Nat)    -- a module file (identified by a number)
  deriving Repr, DecidableEq, Inhabited

def probeLoad (probe : Path → Probe) (st : Unit) (p : Path) : Unit × Res Unit :=
  (st, match probe p with
    | .missing => .none
    | .failure => .err ()
    | .file id => .found id)

/-- the CommonJS selection: the first candidate that is not missing decides -/
def specSelect (probe : Path → Probe) : List Path → Res Unit
  | [] => .none
  | c :: cs =>
    match probe c with
    | .missing => specSelect probe cs
    | .failure => .err ()
    | .file id => .found id

end GN.Require
