import GN.Require.Ideal
import GN.Require.ResolveLemmas
/-!
# require(): cache transparency   [C01, C02, C15]

The model of the code (`GN.Require.Eval`: four caches, "insert before the body runs, forget on failure") produces
the same observable log as the cache-free reference semantics (`GN.Require.Ideal`), loader-call events aside:
`cache_transparent`.

The only assumption of the main theorem is `NoFuelErr (idealHistory t calls).log`: the *reference* run reports no
exhausted fuel (the code never needs more fuel than the reference semantics: a cache hit costs nothing).
No condition on the tree is needed: `loadNative` writes the alias `node:x` of a core module `x` only when no module
is registered under the name `node:x` itself (so does resolve.go: without that test a module registered as
`node:x` would be shadowed once `x` has been required; `alias_regression` replays such a history).

Route: a simulation relation `R` (equal file cache / exports / ids / filtered log; the native cache is the image of
the reference instances under `nativeOf`, up to the lazily created `node:` alias; every entry of the two request
caches is a `Hit`: a candidate that is a live module, preceded only by candidates that are missing in the tree;
`keys`: a live module is a file of the tree whose loader does not fail, so a missing candidate is not live and the
cache-free search passes it by; `comp`: neither does the loader fail on a file whose compiled program is cached, the
one case in which the code does not ask it),
the simulation of `loadNative` by `idealNative`, and a joint induction on fuel for
`loadModule/idealLoad`, `runBody/idealBody`, `resolve/idealResolve` (`sim_all`), with outcome `Out`: the reference
run is out of fuel, or has logged a fuel error, or results are equal and the states are related again.
-/

namespace GN.Require
open GN

section alist
variable {α β : Type} [BEq α]

theorem alookup_nil (k : α) : alookup ([] : List (α × β)) k = none := rfl

theorem alookup_cons (a : α) (b : β) (m : List (α × β)) (k : α) :
    alookup ((a, b) :: m) k = if a == k then some b else alookup m k := by
  unfold alookup
  rw [List.find?_cons]
  cases a == k <;> rfl

variable [LawfulBEq α]

theorem alookup_filter_ne (m : List (α × β)) (k k' : α) :
    alookup (m.filter (fun p => !(p.1 == k))) k' = if k == k' then none else alookup m k' := by
  induction m with
  | nil => simp [alookup]
  | cons x m ih =>
    rcases x with ⟨a, b⟩
    by_cases hak : a == k
    · simp only [List.filter_cons, hak, Bool.not_true, Bool.false_eq_true, if_false, ih, alookup_cons]
      have : a = k := by simpa using hak
      subst this
      split <;> simp_all
    · simp only [List.filter_cons, hak, Bool.not_false, if_true, alookup_cons, ih]
      by_cases hk : k == k'
      · have : k = k' := by simpa using hk
        subst this
        simp [hak]
      · simp [hk]

theorem alookup_ainsert (m : List (α × β)) (k : α) (v : β) (k' : α) :
    alookup (ainsert m k v) k' = if k == k' then some v else alookup m k' := by
  simp only [ainsert, alookup_cons, alookup_filter_ne]
  split <;> simp_all

theorem alookup_aerase (m : List (α × β)) (k k' : α) :
    alookup (aerase m k) k' = if k == k' then none else alookup m k' := by
  simp only [aerase, alookup_filter_ne]

theorem alookup_mem {m : List (α × β)} {k : α} {v : β} (h : alookup m k = some v) : (k, v) ∈ m := by
  obtain ⟨⟨a, b⟩, hf, rfl⟩ := Option.map_eq_some_iff.mp h
  have hk : (a == k) = true := List.find?_some (p := fun x : α × β => x.1 == k) hf
  exact beq_iff_eq.mp hk ▸ List.mem_of_find?_eq_some hf

theorem beq_false_of_alookup {m : List (α × β)} {k k' : α} {v : β} (hk : alookup m k = none)
    (hv : alookup m k' = some v) : (k == k') = false := by
  cases e : k == k' with
  | false => rfl
  | true => rw [← beq_iff_eq.mp e, hk] at hv; cases hv

theorem alookup_ainsert_fresh {m : List (α × β)} {k k' : α} {v w : β} (hk : alookup m k = none)
    (hv : alookup m k' = some v) : alookup (ainsert m k w) k' = some v := by
  rw [alookup_ainsert, beq_false_of_alookup hk hv]
  exact hv

theorem alookup_foldl_ainsert (as : List α) (v : β) (m : List (α × β)) (k : α) :
    alookup (as.foldl (fun m a => ainsert m a v) m) k = if as.contains k then some v else alookup m k := by
  induction as generalizing m with
  | nil => rfl
  | cons a as ih =>
    rw [List.foldl_cons, ih, alookup_ainsert, List.contains_cons, BEq.comm (a := k)]
    cases as.contains k <;> cases a == k <;> rfl

omit [LawfulBEq α] in
theorem mem_ainsert {m : List (α × β)} {k : α} {v : β} {x : α × β} (h : x ∈ ainsert m k v) :
    x = (k, v) ∨ x ∈ m := by
  simp only [ainsert, List.mem_cons, List.mem_filter] at h
  rcases h with h | h
  · exact .inl h
  · exact .inr h.1

end alist

def pre : String := Generated.nodePrefix
def bare (s : String) : String := (s.drop pre.length).toString

theorem pre_toList : pre.toList = ['n','o','d','e',':'] := by decide
theorem pre_length : pre.length = 5 := by decide

theorem bare_toList (s : String) : (bare s).toList = s.toList.drop 5 := by
  simp [bare, pre_length]

theorem bare_pre_append (x : String) : bare (pre ++ x) = x := by
  apply String.toList_inj.mp
  simp [bare_toList, pre_toList]

theorem pre_append_bare {s : String} (h : s.startsWith pre = true) : pre ++ bare s = s := by
  apply String.toList_inj.mp
  rw [String.toList_append, bare_toList]
  exact List.prefix_iff_eq_append.mp (String.startsWith_string_iff.mp h)

def Ev.isLoad : Ev → Bool
  | .load _ => true
  | _ => false

/-- `nativeOf` comes to its fourth test -/
def Fourth (t : Tree) (n : String) : Prop :=
  t.regNative.contains n = false ∧ t.globNative.contains n = false ∧ t.core.contains n = false ∧
    n.startsWith pre = true

/-- how `nativeOf` decides, as a predicate to do `cases` on (`nativeOf_cases`) -/
inductive NativeCase (t : Tree) (n : String) : Option (String × String) ⊕ Unit → Prop
  | reg : t.regNative.contains n = true → NativeCase t n (.inl (some ("R", n)))
  | glob : t.regNative.contains n = false → t.globNative.contains n = true → NativeCase t n (.inl (some ("G", n)))
  | core : t.regNative.contains n = false → t.globNative.contains n = false → t.core.contains n = true →
      NativeCase t n (.inl (some ("C", n)))
  | alias : Fourth t n → t.core.contains (bare n) = true → NativeCase t n (.inl (some ("C", bare n)))
  | noBuiltin : Fourth t n → t.core.contains (bare n) = false → NativeCase t n (.inr ())
  | notNative : t.regNative.contains n = false → t.globNative.contains n = false → t.core.contains n = false →
      n.startsWith pre = false → NativeCase t n (.inl none)

theorem nativeOf_cases (t : Tree) (n : String) : NativeCase t n (nativeOf t n) := by
  unfold nativeOf
  cases h1 : t.regNative.contains n
  case true => exact .reg h1
  cases h2 : t.globNative.contains n
  case true => exact .glob h1 h2
  cases h3 : t.core.contains n
  case true => exact .core h1 h2 h3
  -- the two conditions that are left, written with `pre` and `bare` so that the splits below find them
  show NativeCase t n (if n.startsWith pre = true then if t.core.contains (bare n) = true then _ else _ else _)
  cases h4 : n.startsWith pre
  case false => exact .notNative h1 h2 h3 h4
  cases h5 : t.core.contains (bare n)
  case false => exact .noBuiltin ⟨h1, h2, h3, h4⟩ h5
  case true => exact .alias ⟨h1, h2, h3, h4⟩ h5

theorem nativeOf_core {t : Tree} {x : String} (h1 : t.regNative.contains x = false)
    (h2 : t.globNative.contains x = false) (h3 : t.core.contains x = true) :
    nativeOf t x = .inl (some ("C", x)) := by
  simp only [nativeOf, h1, h2, h3, Bool.false_eq_true, if_false, if_true]

theorem nativeOf_alias {t : Tree} {x : String} (hc : t.core.contains x = true)
    (h1 : t.regNative.contains (pre ++ x) = false) (h2 : t.globNative.contains (pre ++ x) = false)
    (h3 : t.core.contains (pre ++ x) = false) :
    nativeOf t (pre ++ x) = .inl (some ("C", x)) := by
  have h4 : (pre ++ x).startsWith Generated.nodePrefix = true := by simp [pre]
  have h5 : ((pre ++ x).drop Generated.nodePrefix.length).toString = x := bare_pre_append x
  simp only [nativeOf, h1, h2, h3, h4, h5, hc, Bool.false_eq_true, if_false, if_true]

theorem nativeOf_eq_some {t : Tree} {n tbl x : String} (h : nativeOf t n = .inl (some (tbl, x))) :
    (n = x ∧ (tbl = "C" → t.regNative.contains n = false ∧ t.globNative.contains n = false)) ∨
      (tbl = "C" ∧ Fourth t n ∧ bare n = x ∧ t.core.contains x = true) := by
  have c := nativeOf_cases t n
  rw [h] at c
  cases c with
  | reg => exact .inl ⟨rfl, fun e => absurd e (by decide)⟩
  | glob => exact .inl ⟨rfl, fun e => absurd e (by decide)⟩
  | core c1 c2 => exact .inl ⟨rfl, fun _ => ⟨c1, c2⟩⟩
  | alias c4 c3 => exact .inr ⟨rfl, c4, rfl, c3⟩

/-- no file and no loader failure at `c`: a search passes `c` by, whatever has been loaded -/
def Missing (t : Tree) (c : Path) : Prop := alookup t.file c = none ∧ t.loadErr.contains c = false

/-- what an entry `id` of a request cache stands for: the search through `cands` would end at the live module `id` -/
def Hit (t : Tree) (mods : List (Path × Nat)) (cands : List Path) (id : Nat) : Prop :=
  ∃ pre f post, cands = pre ++ f :: post ∧ (∀ c ∈ pre, Missing t c) ∧ alookup mods f = some id

/-- the simulation relation; what its parts say is in the head comment -/
structure R (t : Tree) (st : St) (ist : ISt) : Prop where
  mods : ∀ p, alookup st.modules p = alookup ist.mods p
  exports : st.exports = ist.exports
  fileOf : st.fileOf = ist.fileOf
  next : st.next = ist.next
  log : st.log.filter (fun e => !e.isLoad) = ist.log
  n1 : ∀ name id, alookup st.native name = some id →
    ∃ l, nativeOf t name = .inl (some l) ∧ alookup ist.natives l = some id
  n2 : ∀ name l id, nativeOf t name = .inl (some l) → alookup ist.natives l = some id →
    alookup st.native name = some id ∨
      (Fourth t name ∧ t.regNative.contains (bare name) = false ∧ t.globNative.contains (bare name) = false ∧
        alookup st.native (bare name) = some id)
  res : ∀ p id, (p, id) ∈ st.resolved → Hit t ist.mods (fodCands (envOf t) p) id
  nm : ∀ s n id, ((s, n), id) ∈ st.nodeMods → Hit t ist.mods (nmCands (envOf t) (s.length + 2) n s) id
  keys : ∀ p id, alookup ist.mods p = some id → (alookup t.file p).isSome = true ∧ t.loadErr.contains p = false
  comp : ∀ p, st.compiled.contains p = true → t.loadErr.contains p = false

/-- the cache-free state only grows -/
structure Ext (a b : ISt) : Prop where
  log : a.log <+: b.log
  mods : ∀ {p i}, alookup a.mods p = some i → alookup b.mods p = some i

theorem Ext.refl {a : ISt} : Ext a a := ⟨List.prefix_refl _, id⟩
theorem Ext.trans {a b c : ISt} (h1 : Ext a b) (h2 : Ext b c) : Ext a c :=
  ⟨h1.log.trans h2.log, fun h => h2.mods (h1.mods h)⟩

theorem filter_emit {log : List Ev} {e : Ev} (he : e.isLoad = false) :
    (log ++ [e]).filter (fun e => !e.isLoad) = log.filter (fun e => !e.isLoad) ++ [e] := by
  simp [List.filter_append, he]

/-- `mk` of `loadNative`: the loader `l` ran and made the instance `st.next`, cached under `name` and `aliases` -/
def created (st : St) (name : String) (aliases : List String) (l : String × String) : St × Res ErrTok :=
  (({ st with next := st.next + 1,
              native := (name :: aliases).foldl (fun m a => ainsert m a st.next) st.native }).emit
    (.native l.1 l.2 st.next), .found st.next)

theorem loadNative_unfold (t : Tree) (st : St) (path : String) : loadNative t st path =
  match alookup st.native path with
  | some id => (st, .found id)
  | none =>
    if t.regNative.contains path then created st path [] ("R", path)
    else if t.globNative.contains path then created st path [] ("G", path)
    else if t.core.contains path then
      created st path
        (if path.startsWith pre || t.regNative.contains (pre ++ path) || t.globNative.contains (pre ++ path)
            || t.core.contains (pre ++ path) then [] else [pre ++ path])
        ("C", path)
    else if path.startsWith pre then
      if t.core.contains (bare path) then
        match (if t.regNative.contains (bare path) || t.globNative.contains (bare path) then none
            else alookup st.native (bare path)) with
        | some id => ({ st with native := ainsert st.native path id }, .found id)
        | none =>
          created st path
            (if t.regNative.contains (bare path) || t.globNative.contains (bare path) then [] else [bare path])
            ("C", bare path)
      else (st, .err .noSuchBuiltin)
    else (st, .err .invalidModule) := by
  unfold loadNative created bare pre
  rfl

/-- `loadNative` against `idealNative`: the same instance in related states, or the same refusal -/
inductive NativeOut (t : Tree) (st : St) (ist : ISt) (name : String) : St × Res ErrTok → Prop
  | found {st' ist' id} : idealNative t ist name = (ist', some (.found id)) → R t st' ist' →
      NativeOut t st ist name (st', .found id)
  | noBuiltin : idealNative t ist name = (ist, some (.err .noSuchBuiltin)) →
      NativeOut t st ist name (st, .err .noSuchBuiltin)
  | notNative : idealNative t ist name = (ist, none) → NativeOut t st ist name (st, .err .invalidModule)

/-- a native or core loader `l` runs, and the code caches the new instance under `name` and `as`.  These names denote
`l`, and the name `l` is registered under is among them if it denotes `l` (it may be overridden); the only other name
that can denote `l` is the `node:` form of a core module, which gets its entry lazily. -/
theorem native_create {t : Tree} {st : St} {ist : ISt} (h : R t st ist) {name : String} {l : String × String}
    (hno : nativeOf t name = .inl (some l)) (hn : alookup st.native name = none)
    (hx : Fourth t name → t.regNative.contains (bare name) = false → t.globNative.contains (bare name) = false →
      alookup st.native (bare name) = none)
    {as : List String} (w1 : ∀ a ∈ as, nativeOf t a = .inl (some l))
    (w2 : nativeOf t l.2 = .inl (some l) → l.2 = name ∨ l.2 ∈ as) :
    NativeOut t st ist name (created st name as l) := by
  -- the loader has no instance yet: else `name`, or the name it is a lazy alias of, would be cached
  have w0 : alookup ist.natives l = none := by
    cases hl : alookup ist.natives l with
    | none => rfl
    | some id =>
      rcases h.n2 name l id hno hl with hh | ⟨h4, hr, hg, hh⟩
      · rw [hn] at hh; cases hh
      · rw [hx h4 hr hg] at hh; cases hh
  have written : ∀ {n}, (name :: as).contains n = true → nativeOf t n = .inl (some l) := fun {n} hn =>
    (List.mem_cons.mp (List.contains_iff_mem.mp hn)).elim (· ▸ hno) (w1 n)
  have w2 := fun hl => List.contains_iff_mem.mpr (List.mem_cons.mpr (w2 hl))
  -- every name of `l` is written, or is the `node:` form of a name that is
  have covered : ∀ {n}, nativeOf t n = .inl (some l) → (name :: as).contains n = true ∨
      (Fourth t n ∧ t.regNative.contains (bare n) = false ∧ t.globNative.contains (bare n) = false ∧
        (name :: as).contains (bare n) = true) := by
    intro n hn
    obtain ⟨tbl, x⟩ := l
    rcases nativeOf_eq_some hn with ⟨rfl, _⟩ | ⟨rfl, h4, rfl, hc⟩
    · exact .inl (w2 hn)
    · cases hov : t.regNative.contains (bare n) || t.globNative.contains (bare n)
      · obtain ⟨hr, hg⟩ := Bool.or_eq_false_iff.mp hov
        exact .inr ⟨h4, hr, hg, w2 (nativeOf_core hr hg hc)⟩
      · -- the core module `bare n` is overridden under its own name: `n` is its only name, so `name` is `n`
        left
        rcases nativeOf_eq_some hno with ⟨e, ho⟩ | ⟨_, h4', e, _⟩
        · obtain ⟨hr, hg⟩ := ho rfl
          rw [← e, hr, hg] at hov
          cases hov
        · rw [← pre_append_bare h4.2.2.2, ← e, pre_append_bare h4'.2.2.2]
          exact List.elem_cons_self
  -- a name written now denotes `l`, which had no instance before: no old entry is shadowed
  have keep : ∀ {m id}, alookup st.native m = some id →
      (if (name :: as).contains m = true then some ist.next else alookup st.native m) = some id := by
    intro m id hm
    rw [if_neg]
    · exact hm
    · intro hw
      obtain ⟨l', hl1, hl2⟩ := h.n1 m id hm
      cases (written hw).symm.trans hl1
      rw [w0] at hl2
      cases hl2
  rw [created, h.next]
  refine .found (by simp [idealNative, hno, w0]; rfl) ?_
  exact { h with
    next := rfl
    log := by simp only [St.emit, ISt.emit, filter_emit (rfl : (Ev.native l.1 l.2 ist.next).isLoad = false), h.log]
    n1 := fun n id hl => by
      simp only [St.emit, ISt.emit, alookup_foldl_ainsert] at hl ⊢
      split at hl
      · rename_i hw
        exact ⟨l, written hw, by rw [alookup_ainsert, if_pos (beq_self_eq_true l)]; exact hl⟩
      · obtain ⟨l', hl1, hl2⟩ := h.n1 n id hl
        exact ⟨l', hl1, alookup_ainsert_fresh w0 hl2⟩
    n2 := fun n l' id hno hl => by
      simp only [St.emit, ISt.emit, alookup_foldl_ainsert, alookup_ainsert] at hl ⊢
      split at hl
      · rename_i heq
        cases beq_iff_eq.mp heq
        rcases covered hno with hw | ⟨h4, hr, hg, hw⟩
        · left; rw [if_pos hw]; exact hl
        · right; exact ⟨h4, hr, hg, by rw [if_pos hw]; exact hl⟩
      · exact (h.n2 n l' id hno hl).imp keep fun ⟨h4, hr, hg, hh⟩ => ⟨h4, hr, hg, keep hh⟩ }

/-- the lazily created `node:` alias of a core module that is already loaded under its own name -/
theorem R.alias {t : Tree} {st : St} {ist : ISt} (h : R t st ist) {name : String} {l : String × String} {id : Nat}
    (hno : nativeOf t name = .inl (some l)) (hn : alookup st.native name = none)
    (hl : alookup ist.natives l = some id) : R t { st with native := ainsert st.native name id } ist :=
  { h with
    n1 := fun n i hi => by
      simp only [alookup_ainsert] at hi
      split at hi
      · rename_i e
        cases beq_iff_eq.mp e; cases hi
        exact ⟨_, hno, hl⟩
      · exact h.n1 n i hi
    -- nothing was cached under `name` before, so no old entry is shadowed
    n2 := fun n l' i hn' hi =>
      (h.n2 n l' i hn' hi).imp (alookup_ainsert_fresh hn) fun ⟨h4, hr, hg, hh⟩ => ⟨h4, hr, hg, alookup_ainsert_fresh hn hh⟩ }

theorem native_sim {t : Tree} {st : St} {ist : ISt} (h : R t st ist) (name : String) :
    NativeOut t st ist name (loadNative t st name) := by
  rw [loadNative_unfold]
  cases hn : alookup st.native name with
  | some id =>
    obtain ⟨l, h1, h2⟩ := h.n1 name id hn
    exact .found (by simp [idealNative, h1, h2]) h
  | none =>
    simp only []
    have c := nativeOf_cases t name
    generalize c2 : nativeOf t name = l at c
    cases c with
    | reg c1 =>
      simp only [c1, if_true]
      exact native_create h c2 hn (fun h4 => nomatch h4.1.symm.trans c1) (fun _ ha => nomatch ha) fun _ => .inl rfl
    | glob c0 c1 =>
      simp only [c0, c1, if_true, Bool.false_eq_true, if_false]
      exact native_create h c2 hn (fun h4 => nomatch h4.2.1.symm.trans c1) (fun _ ha => nomatch ha) fun _ => .inl rfl
    | core c0 c1 c3 =>
      -- `node:name` is written as an alias if nothing else is registered there
      simp only [c0, c1, c3, if_true, Bool.false_eq_true, if_false]
      refine native_create h c2 hn (fun h4 => nomatch h4.2.2.1.symm.trans c3) ?_ fun _ => .inl rfl
      intro a ha
      cases hal : (name.startsWith pre || t.regNative.contains (pre ++ name) || t.globNative.contains (pre ++ name)
          || t.core.contains (pre ++ name))
      · rw [hal] at ha
        cases List.mem_singleton.mp ha
        simp only [Bool.or_eq_false_iff] at hal
        exact nativeOf_alias c3 hal.1.1.2 hal.1.2 hal.2
      · rw [hal] at ha
        nomatch ha
    | alias c4 c3 =>
      obtain ⟨c0, c1, c5, c6⟩ := c4
      simp only [c0, c1, c5, c6, c3, if_true, Bool.false_eq_true, if_false]
      cases hov : (t.regNative.contains (bare name) || t.globNative.contains (bare name))
      · obtain ⟨o1, o2⟩ := Bool.or_eq_false_iff.mp hov
        simp only [Bool.false_eq_true, if_false]
        cases hb : alookup st.native (bare name) with
        | some id =>
          -- the core module is loaded already: only the alias is written
          obtain ⟨l', h1, h2⟩ := h.n1 _ _ hb
          cases (nativeOf_core o1 o2 c3).symm.trans h1
          exact .found (by simp [idealNative, c2, h2]) (h.alias c2 hn h2)
        | none =>
          exact native_create h c2 hn (fun _ _ _ => hb)
            (fun a ha => by rw [List.mem_singleton.mp ha]; exact nativeOf_core o1 o2 c3) fun _ => .inr (.head _)
      · -- the core module's own name is taken by a native module: `name` is its only name
        simp only [if_true]
        refine native_create h c2 hn (fun _ hr hg => by rw [hr, hg] at hov; cases hov)
          (fun _ ha => nomatch ha) fun hb => ?_
        rcases nativeOf_eq_some hb with ⟨_, ho⟩ | ⟨_, h4, _, hc⟩
        · obtain ⟨o1, o2⟩ := ho rfl
          rw [o1, o2] at hov
          cases hov
        · rw [h4.2.2.1] at hc
          cases hc
    | noBuiltin c4 c3 =>
      obtain ⟨c0, c1, c5, c6⟩ := c4
      simp only [c0, c1, c5, c6, c3, if_true, Bool.false_eq_true, if_false]
      exact .noBuiltin (by simp [idealNative, c2])
    | notNative c0 c1 c5 c6 =>
      simp only [c0, c1, c5, c6, Bool.false_eq_true, if_false]
      exact .notNative (by simp [idealNative, c2])

theorem Ext.emit {a : ISt} {e : Ev} : Ext a (a.emit e) := ⟨⟨[e], rfl⟩, id⟩

theorem Ext.register {a b : ISt} {p : Path} {i : Nat} (hm : alookup a.mods p = none) (hl : a.log <+: b.log)
    (hb : b.mods = ainsert a.mods p i) : Ext a b :=
  ⟨hl, fun hq => hb ▸ alookup_ainsert_fresh hm hq⟩

theorem Ext.unregister {a b : ISt} {p : Path} (hm : alookup a.mods p = none) (e : Ext a b) :
    Ext a { b with mods := aerase b.mods p } :=
  ⟨e.log, fun hq => by rw [alookup_aerase, beq_false_of_alookup hm hq]; exact e.mods hq⟩

theorem idealNative_ext (t : Tree) (ist : ISt) (name : String) : Ext ist (idealNative t ist name).1 := by
  unfold idealNative
  split
  · exact Ext.refl
  · exact Ext.refl
  · split
    · exact Ext.refl
    · exact ⟨⟨[_], rfl⟩, id⟩

/-- what a load in the cache-free semantics leaves behind -/
inductive LoadPost (t : Tree) (ist : ISt) (p : Path) : ISt × Res ErrTok → Prop
  | found {ist' id} : Ext ist ist' → alookup ist'.mods p = some id → LoadPost t ist p (ist', .found id)
  | missing : Missing t p → LoadPost t ist p (ist, .none)
  | err {ist' e} : Ext ist ist' → (alookup ist.mods p = none → alookup ist'.mods p = none) →
      LoadPost t ist p (ist', .err e)

theorem LoadPost.ext {t : Tree} {ist : ISt} {p : Path} {x : ISt × Res ErrTok} : LoadPost t ist p x → Ext ist x.1
  | .found e _ => e
  | .missing _ => .refl
  | .err e _ => e

theorem tryList_ext {t : Tree} {load : ISt → Path → ISt × Res ErrTok} (hl : ∀ ist p, LoadPost t ist p (load ist p))
    (ist : ISt) (cs : List Path) : Ext ist (tryList load ist cs).1 := by
  induction cs generalizing ist with
  | nil => exact Ext.refl
  | cons c cs ih =>
    rw [tryList]
    have e1 := (hl ist c).ext
    generalize load ist c = x at e1 ⊢
    obtain ⟨ist1, r⟩ := x
    cases r with
    | none => exact e1.trans (ih ist1)
    | found id => exact e1
    | err e => exact e1

/-- what the simulation needs to know of the cache-free semantics alone, at fuel `n` -/
structure IdealOK (t : Tree) (n : Nat) : Prop where
  load : ∀ ist p, LoadPost t ist p (idealLoad t n ist p)
  body : ∀ {ist d self body}, Ext ist (idealBody t n ist d self body).1
  res : ∀ ist d s, Ext ist (idealResolve t n ist d s).1

theorem idealOK (t : Tree) (n : Nat) : IdealOK t n := by
  -- Nothing is ever taken back, except the registration of the module whose own body fails, and that file was no
  -- live module before the load (`Ext.unregister`): so every function extends the state it is given, and composing
  -- the extensions of the calls a function makes (`Ext.trans`) is the whole proof, by induction on the fuel.
  induction n with
  | zero =>
    refine ⟨fun ist p => ?_, @fun ist d self body => ?_, fun ist d s => ?_⟩
    · rw [idealLoad]; exact .err .refl id
    · rw [idealBody]; exact Ext.refl
    · rw [idealResolve]; exact Ext.refl
  | succ n ih =>
    obtain ⟨ihL, ihB, ihR⟩ := ih
    refine ⟨fun ist p => ?_, @fun ist d self body => ?_, fun ist d s => ?_⟩
    · rw [idealLoad]
      cases hm : alookup ist.mods p with
      | some id => exact .found .refl hm
      | none =>
        simp only []
        by_cases hle : t.loadErr.contains p = true
        · rw [if_pos hle]; exact .err .refl id
        rw [if_neg hle]
        cases hf : alookup t.file p with
        | none => exact .missing ⟨hf, Bool.eq_false_iff.mpr hle⟩
        | some k =>
          cases k with
          | bad => exact .err .refl id
          | jsonBad => exact .err .refl id
          | jsonOk => exact .found (Ext.register hm (List.prefix_refl _) rfl) (by simp [alookup_ainsert])
          | js body =>
            simp only []
            generalize hx : idealBody t n _ (dir p) ist.next body = x
            have hb : Ext _ x.1 := hx ▸ ihB
            have hb' := (Ext.register hm ⟨[.enter p ist.next], rfl⟩ rfl).trans hb
            obtain ⟨ist2, r⟩ := x
            cases r with
            | none => exact .found hb' (hb.mods (by simp [ISt.emit, alookup_ainsert]))
            | some e => exact .err (Ext.unregister hm hb') fun _ => by simp [alookup_aerase]
    · cases body with
      | nil => rw [idealBody]; exact Ext.refl
      | cons a rest =>
        cases a with
        | set tag =>
          rw [idealBody]
          refine Ext.trans ?_ ihB
          exact ⟨List.prefix_refl _, id⟩
        | throw tok => rw [idealBody]; exact Ext.refl
        | req sp caught =>
          rw [idealBody]
          have h1 := ihR ist d sp
          generalize idealResolve t n ist d sp = x at h1 ⊢
          obtain ⟨ist1, r⟩ := x
          cases r with
          | found id => exact h1.trans (Ext.emit.trans ihB)
          | err e =>
            cases caught
            · exact h1
            · exact h1.trans (Ext.emit.trans ihB)
          | none => exact h1
    · rw [idealResolve]
      have hpick : ∀ {ist0 cands}, Ext ist0 (match tryList (idealLoad t n) ist0 cands with
          | (st, .none) => (st, Res.err ErrTok.invalidModule)
          | r => r).1 := by
        intro ist0 cands
        have h := tryList_ext ihL ist0 cands
        generalize tryList (idealLoad t n) ist0 cands = x at h ⊢
        obtain ⟨ist1, r⟩ := x
        cases r <;> exact h
      simp only []
      split
      · exact hpick
      · have h1 := idealNative_ext t ist s
        generalize idealNative t ist s = x at h1 ⊢
        obtain ⟨ist1, o⟩ := x
        cases o with
        | some r => exact h1
        | none => exact h1.trans hpick

theorem Hit.mono {t : Tree} {m m' : List (Path × Nat)} {cs : List Path} {id : Nat} (h : Hit t m cs id)
    (hm : ∀ {p i}, alookup m p = some i → alookup m' p = some i) : Hit t m' cs id := by
  obtain ⟨front, f, post, h1, h2, h3⟩ := h
  exact ⟨front, f, post, h1, h2, hm h3⟩

theorem tryList_found_hit {t : Tree} {n : Nat} {ist : ISt} {cs : List Path} {ist' : ISt} {id : Nat}
    (h : tryList (idealLoad t n) ist cs = (ist', .found id)) : Hit t ist'.mods cs id := by
  induction cs generalizing ist with
  | nil => cases h
  | cons c cs ih =>
    rw [tryList] at h
    have hL := (idealOK t n).load ist c
    generalize idealLoad t n ist c = x at h hL
    cases hL with
    | missing hmiss =>
      obtain ⟨front, f, post, e1, e2, e3⟩ := ih h
      exact ⟨c :: front, f, post, congrArg (c :: ·) e1, List.forall_mem_cons.mpr ⟨hmiss, e2⟩, e3⟩
    | found _ hf =>
      cases h
      exact ⟨[], c, cs, rfl, nofun, hf⟩
    | err => cases h

theorem idealLoad_missing {t : Tree} {n : Nat} {ist : ISt} {c : Path} (hm : Missing t c)
    (hk : alookup ist.mods c = none) : idealLoad t (n + 1) ist c = (ist, .none) := by
  rw [idealLoad, hk]
  simp only [hm.2, hm.1, Bool.false_eq_true, if_false]

theorem hit_tryList {t : Tree} {n : Nat} {ist : ISt} {cs : List Path} {id : Nat}
    (hk : ∀ p id, alookup ist.mods p = some id → (alookup t.file p).isSome = true ∧ t.loadErr.contains p = false)
    (h : Hit t ist.mods cs id) : tryList (idealLoad t (n + 1)) ist cs = (ist, .found id) := by
  obtain ⟨front, f, post, rfl, h2, h3⟩ := h
  induction front with
  | nil => rw [List.nil_append, tryList, idealLoad, h3]
  | cons c front ih =>
    obtain ⟨hm, h2⟩ := List.forall_mem_cons.mp h2
    have : alookup ist.mods c = none := by
      cases hc : alookup ist.mods c with
      | none => rfl
      | some i => have := (hk c i hc).1; rw [hm.1] at this; cases this
    rw [List.cons_append, tryList, idealLoad_missing hm this]
    exact ih h2

theorem hit_tryList_zero {t : Tree} {ist : ISt} {cs : List Path} {id : Nat} {m : List (Path × Nat)}
    (h : Hit t m cs id) : tryList (idealLoad t 0) ist cs = (ist, .err .outOfFuel) := by
  obtain ⟨front, f, post, rfl, h2, h3⟩ := h
  cases front <;> simp [tryList, idealLoad]

/-- the log reports exhausted fuel: what `NoFuelErr` excludes -/
def FuelLogged (log : List Ev) : Prop := ∃ e ∈ log, e = .topErr .outOfFuel ∨ ∃ s, e = .caught s .outOfFuel

theorem FuelLogged.mono {a b : ISt} (h : FuelLogged a.log) (e : Ext a b) : FuelLogged b.log :=
  h.imp fun _ hx => ⟨e.log.subset hx.1, hx.2⟩

/-- the reference run is out of fuel (`bad : ρ`) or has logged so: no claim; else equal results and `R` again -/
inductive Out {ρ : Type} (t : Tree) (bad : ρ) : St × ρ → ISt × ρ → Prop
  | fuel {c ist} : Out t bad c (ist, bad)
  | logged {c i} : FuelLogged i.1.log → Out t bad c i
  | good {st ist r} : R t st ist → Out t bad (st, r) (ist, r)

/-- the three statements of the joint induction on the fuel (`sim_all`), one for each function of the mutual
recursion -/
def LoadSim (t : Tree) (n : Nat) : Prop :=
  ∀ {st ist} p, R t st ist → Out t (.err .outOfFuel) (loadModule t n st p) (idealLoad t n ist p)
def BodySim (t : Tree) (n : Nat) : Prop :=
  ∀ {st ist d self body}, R t st ist →
    Out t (some .outOfFuel) (runBody t n st d self body) (idealBody t n ist d self body)
def ResSim (t : Tree) (n : Nat) : Prop :=
  ∀ {st ist} d s, R t st ist → Out t (.err .outOfFuel) (resolve t n st d s) (idealResolve t n ist d s)

theorem tryList_sim {t : Tree} {n : Nat} (hs : LoadSim t n) {st : St} {ist : ISt} (cs : List Path) (hR : R t st ist) :
    Out t (.err .outOfFuel) (tryList (loadModule t n) st cs) (tryList (idealLoad t n) ist cs) := by
  induction cs generalizing st ist with
  | nil => exact .good hR
  | cons c cs ih =>
    rw [tryList, tryList]
    have h1 := hs c hR
    generalize loadModule t n st c = x at h1 ⊢
    generalize idealLoad t n ist c = y at h1 ⊢
    cases h1 with
    | fuel => exact .fuel
    | logged h1 =>
      obtain ⟨ist1, r1⟩ := y
      cases r1 with
      | none => exact .logged (h1.mono (tryList_ext (idealOK t n).load _ _))
      | found id => exact .logged h1
      | err e => exact .logged h1
    | @good st1 ist1 r1 h2 =>
      cases r1 with
      | none => exact ih h2
      | found id => exact .good h2
      | err e => exact .good h2

theorem R.emit {t : Tree} {st : St} {ist : ISt} (h : R t st ist) {e : Ev} (he : e.isLoad = false) :
    R t (st.emit e) (ist.emit e) :=
  { h with log := by simp only [St.emit, ISt.emit, filter_emit he, h.log] }

theorem R.tags {t : Tree} {st : St} {ist : ISt} (h : R t st ist) (id : Nat) : st.tags id = ist.tags id := by
  rw [St.tags, ISt.tags, h.exports]

theorem R.forget {t : Tree} {st : St} {ist : ISt} (h : R t st ist) {p : Path} {id : Nat}
    (hp : alookup ist.mods p = some id) :
    R t (st.forget p id) { ist with mods := aerase ist.mods p } :=
  have hit : ∀ {cs i}, i ≠ id → Hit t ist.mods cs i → Hit t (aerase ist.mods p) cs i := by
    intro cs i hi ⟨front, f, post, h1, h2, h3⟩
    refine ⟨front, f, post, h1, h2, ?_⟩
    rw [alookup_aerase]
    split
    · rename_i e
      cases beq_iff_eq.mp e
      rw [hp] at h3
      exact absurd (Option.some.inj h3) (Ne.symm hi)
    · exact h3
  { h with
    mods := fun q => by simp only [St.forget, alookup_aerase, h.mods]
    res := fun q i hx =>
      have hx := List.mem_filter.mp hx
      hit (by simpa using hx.2) (h.res q i hx.1)
    nm := fun s n i hx =>
      have hx := List.mem_filter.mp hx
      hit (by simpa using hx.2) (h.nm s n i hx.1)
    keys := fun q i hq => by
      rw [alookup_aerase] at hq
      split at hq
      · cases hq
      · exact h.keys q i hq }

theorem body_sim {t : Tree} {n : Nat} (hB : BodySim t n) (hRes : ResSim t n) : BodySim t (n + 1) := by
  intro st ist d self body hR
  cases body with
  | nil => rw [runBody, idealBody]; exact .good hR
  | cons a rest =>
    cases a with
    | set tag =>
      rw [runBody, idealBody]
      exact hB { hR with exports := by rw [hR.tags, hR.exports] }
    | throw tok => rw [runBody, idealBody]; exact .good hR
    | req sp caught =>
      rw [runBody, idealBody]
      have h1 := hRes d sp hR
      generalize resolve t n st d sp = x at h1 ⊢
      generalize idealResolve t n ist d sp = y at h1 ⊢
      cases h1 with
      | fuel =>
        cases caught with
        | false => exact .fuel
        | true =>
          refine .logged (FuelLogged.mono ?_ (idealOK t n).body)
          exact ⟨.caught sp .outOfFuel, by simp [ISt.emit], .inr ⟨sp, rfl⟩⟩
      | logged h1 =>
        refine .logged ?_
        obtain ⟨ist1, r1⟩ := y
        cases r1 with
        | found id => exact (h1.mono Ext.emit).mono (idealOK t n).body
        | err e =>
          cases caught with
          | false => exact h1
          | true => exact (h1.mono Ext.emit).mono (idealOK t n).body
        | none => exact h1
      | @good st1 ist1 r1 h2 =>
        cases r1 with
        | found id =>
          simp only []
          rw [h2.fileOf, h2.tags]
          exact hB (h2.emit rfl)
        | err e =>
          cases caught with
          | false => exact .good h2
          | true => exact hB (h2.emit rfl)
        | none => exact .good h2

/-- a request that is answered from a request cache -/
theorem cached_sim {t : Tree} {n : Nat} {st : St} {ist : ISt} (hR : R t st ist) {cs : List Path} {id : Nat}
    (hit : Hit t ist.mods cs id) :
    Out t (.err .outOfFuel) (st, .found id)
      (match tryList (idealLoad t n) ist cs with
        | (st, .none) => (st, .err .invalidModule)
        | r => r) := by
  cases n with
  | zero => rw [hit_tryList_zero hit]; exact .fuel
  | succ n => rw [hit_tryList hR.keys hit]; exact .good hR

/-- a request that is searched for; `ins` enters the module found into a request cache.  The code's side is the tail of
`resolve` as it elaborates: the inner `match r with` is `finish r`, unfolded. -/
theorem search_sim {t : Tree} {n : Nat} (hL : LoadSim t n) {st : St} {ist : ISt} (hR : R t st ist) {cs : List Path}
    {ins : St → Nat → St} (hins : ∀ {st' ist' id}, R t st' ist' → Hit t ist'.mods cs id → R t (ins st' id) ist') :
    Out t (.err .outOfFuel)
      (match tryList (loadModule t n) st cs with
        | (st, .found id) => (ins st id, .found id)
        | r =>
          match r with
          | (st, .none) => (st, .err .invalidModule)
          | r => r)
      (match tryList (idealLoad t n) ist cs with
        | (st, .none) => (st, .err .invalidModule)
        | r => r) := by
  have h1 := tryList_sim hL cs hR
  generalize tryList (loadModule t n) st cs = x at h1 ⊢
  generalize hi : tryList (idealLoad t n) ist cs = y at h1 ⊢
  cases h1 with
  | fuel => exact .fuel
  | logged h1 =>
    obtain ⟨ist1, r1⟩ := y
    cases r1 <;> exact .logged h1
  | @good st1 ist1 r1 h2 =>
    cases r1 with
    | found id => exact .good (hins h2 (tryList_found_hit hi))
    | none => exact .good h2
    | err e => exact .good h2

theorem res_sim {t : Tree} {n : Nat} (hL : LoadSim t n) : ResSim t (n + 1) := by
  intro st ist d s hR
  rw [resolve, idealResolve]
  simp only [loadAsFileOrDirectory_eq, loadNodeModules_eq]
  generalize (if isAbs s = true then "" else d) = start
  split
  · -- a file or directory path
    cases hres : alookup st.resolved (join start s) with
    | some id => exact cached_sim hR (hR.res _ _ (alookup_mem hres))
    | none =>
      exact search_sim hL hR fun h hit =>
        { h with res := fun q i hx => (mem_ainsert hx).elim (fun e => by cases e; exact hit) (h.res q i) }
  · -- a bare name
    have h := native_sim hR s
    generalize loadNative t st s = x at h ⊢
    cases h with
    | found h2 h3 => rw [h2]; exact .good h3
    | noBuiltin h2 => rw [h2]; exact .good hR
    | notNative h2 =>
      rw [h2]
      simp only []
      cases hres : alookup st.nodeMods (start, s) with
      | some id => exact cached_sim hR (hR.nm _ _ _ (alookup_mem hres))
      | none =>
        exact search_sim hL hR fun h hit =>
          { h with nm := fun s' n' i hx => (mem_ainsert hx).elim (fun e => by cases e; exact hit) (h.nm s' n' i) }

theorem R.fail {t : Tree} {st : St} {ist : ISt} (hR : R t st ist) {p : Path} (hm : alookup ist.mods p = none)
    {id : Nat} {log : List Ev} {comp : List Path}
    (hlog : log.filter (fun e => !e.isLoad) = st.log.filter (fun e => !e.isLoad))
    (hcomp : ∀ q, comp.contains q = true → t.loadErr.contains q = false) :
    R t (({ st with modules := ainsert st.modules p id, compiled := comp, log := log } : St).forget p id) ist :=
  { hR with
    mods := fun q => by
      simp only [St.forget, alookup_aerase, alookup_ainsert]
      split
      · rename_i e
        cases beq_iff_eq.mp e; exact hm.symm
      · exact hR.mods q
    log := hlog.trans hR.log
    res := fun q i hx => hR.res q i (List.mem_filter.mp hx).1
    nm := fun s n i hx => hR.nm s n i (List.mem_filter.mp hx).1
    comp := hcomp }

theorem R.enter {t : Tree} {st : St} {ist : ISt} (hR : R t st ist) {p : Path} (hm : alookup ist.mods p = none)
    {k : FileKind} (hf : alookup t.file p = some k) (hle : t.loadErr.contains p = false) {log : List Ev}
    {comp : List Path}
    (hlog : log.filter (fun e => !e.isLoad) = st.log.filter (fun e => !e.isLoad))
    (hcomp : ∀ q, comp.contains q = true → t.loadErr.contains q = false) :
    R t { st with modules := ainsert st.modules p st.next, compiled := comp, next := st.next + 1, log := log }
      { ist with mods := ainsert ist.mods p st.next, next := st.next + 1 } :=
  { hR with
    mods := fun q => by simp only [alookup_ainsert, hR.mods]
    next := rfl
    log := hlog.trans hR.log
    res := fun q i hx => (hR.res q i hx).mono (alookup_ainsert_fresh hm)
    nm := fun s n i hx => (hR.nm s n i hx).mono (alookup_ainsert_fresh hm)
    keys := fun q i hq => by
      rw [alookup_ainsert] at hq
      split at hq
      · rename_i e
        cases beq_iff_eq.mp e; exact ⟨hf ▸ rfl, hle⟩
      · exact hR.keys q i hq
    comp := hcomp }

theorem js_sim {t : Tree} {n : Nat} (hB : BodySim t n) {st1 : St} {ist1 : ISt} (hR1 : R t st1 ist1) {p : Path}
    {id : Nat} (hp1 : alookup ist1.mods p = some id) {d : Path} {body : List Act} :
    Out t (Res.err ErrTok.outOfFuel)
      (match runBody t n st1 d id body with
        | (st, none) => (st, Res.found id)
        | (st, some e) => (st.forget p id, Res.err e))
      (match idealBody t n ist1 d id body with
        | (st, none) => (st, Res.found id)
        | (st, some e) => ({ st with mods := aerase st.mods p }, Res.err e)) := by
  have h1 := @hB _ _ d id body hR1
  have hext : Ext ist1 (idealBody t n ist1 d id body).1 := (idealOK t n).body
  generalize runBody t n st1 d id body = x at h1 ⊢
  generalize idealBody t n ist1 d id body = y at h1 hext ⊢
  cases h1 with
  | fuel => exact .fuel
  | logged h1 =>
    obtain ⟨ist2, r2⟩ := y
    cases r2 <;> exact .logged h1
  | @good st2 ist2 r2 h2 =>
    cases r2 with
    | none => exact .good h2
    | some e => exact .good (h2.forget (hext.mods hp1))

/-- consulting the loader leaves only a `load` event, which the comparison of logs ignores -/
theorem emit_load_ite (c : Bool) (st : St) (p : Path) :
    ∃ log, (if c = true then st else st.emit (.load p)) = { st with log := log } ∧
      log.filter (fun e => !e.isLoad) = st.log.filter (fun e => !e.isLoad) := by
  cases c
  · exact ⟨_, rfl, by simp [List.filter_append, Ev.isLoad]⟩
  · exact ⟨_, rfl, rfl⟩

theorem load_sim {t : Tree} {n : Nat} (hB : BodySim t n) : LoadSim t (n + 1) := by
  -- The code enters the module into the file cache before it looks at the file and forgets it again on every failure;
  -- the reference semantics registers only a file that exists and compiles.  So each failing branch ends in `R.fail`
  -- (entered and forgotten: the reference state has not moved), each succeeding one in `R.enter`, and a `js` body
  -- goes on in `js_sim` from there.
  intro st ist p hR
  rw [loadModule, idealLoad, hR.mods p]
  cases hm : alookup ist.mods p with
  | some id => exact .good hR
  | none =>
    -- whether a compiled program is cached shows only in the `load` event and in `compiled`: make both generic
    obtain ⟨log, e, hlog⟩ :=
      emit_load_ite (st.compiled.contains p) { st with modules := ainsert st.modules p st.next } p
    simp only [e]
    clear e
    have hcond : (!st.compiled.contains p && t.loadErr.contains p) = t.loadErr.contains p := by
      cases hc : st.compiled.contains p
      · rfl
      · simpa using hR.comp p hc
    rw [hcond, ← hR.next]
    cases hle : t.loadErr.contains p
    · have hcomp : ∀ q, (if st.compiled.contains p = true then st.compiled else p :: st.compiled).contains q = true →
          t.loadErr.contains q = false := by
        intro q hq
        split at hq
        · exact hR.comp q hq
        · rw [List.contains_cons, Bool.or_eq_true, beq_iff_eq] at hq
          rcases hq with rfl | hq
          · exact hle
          · exact hR.comp q hq
      generalize (if st.compiled.contains p = true then st.compiled else p :: st.compiled) = comp at hcomp ⊢
      simp only [Bool.false_eq_true, if_false]
      cases hf : alookup t.file p with
      | none => exact .good (hR.fail hm hlog hR.comp)
      | some k =>
        cases k with
        | bad => exact .good (hR.fail hm hlog hR.comp)
        | jsonBad => exact .good (hR.fail hm hlog hcomp)
        | jsonOk => exact .good (hR.enter hm hf hle hlog hcomp)
        | js body =>
          refine js_sim hB (R.emit ?_ rfl) ?_
          · exact { hR.enter hm hf hle hlog hcomp with
              fileOf := congrArg (fun f => ainsert f st.next p) hR.fileOf }
          · simp [ISt.emit, alookup_ainsert]
    · exact .good (hR.fail hm hlog hR.comp)

theorem sim_all (t : Tree) (n : Nat) : ResSim t n ∧ LoadSim t n ∧ BodySim t n := by
  induction n with
  | zero =>
    refine ⟨fun d s _ => ?_, fun p _ => ?_, fun _ => ?_⟩
    · rw [resolve, idealResolve]; exact .fuel
    · rw [loadModule, idealLoad]; exact .fuel
    · rw [runBody, idealBody]; exact .fuel
  | succ n ih =>
    obtain ⟨hRes, hL, hB⟩ := ih
    exact ⟨res_sim hL, load_sim hB, body_sim hB hRes⟩

/-- the relation between top-level calls -/
def Agree (t : Tree) (st : St) (ist : ISt) : Prop := FuelLogged ist.log ∨ R t st ist

/-- the tail of `runTop` / `idealTop`: the result of `resolve` is logged -/
theorem top_step {t : Tree} {x : St × Res ErrTok} {y : ISt × Res ErrTok} :
    Out t (.err .outOfFuel) x y → Agree t
      (match x with
        | (st, .found id) => st.emit (.top id (alookup st.fileOf id) (st.tags id))
        | (st, .err e) => st.emit (.topErr e)
        | (st, .none) => st.emit (.topErr .invalidModule))
      (match y with
        | (st, .found id) => st.emit (.top id (alookup st.fileOf id) (st.tags id))
        | (st, .err e) => st.emit (.topErr e)
        | (st, .none) => st.emit (.topErr .invalidModule)) := by
  intro h
  cases h with
  | fuel => exact .inl ⟨.topErr .outOfFuel, by simp [ISt.emit], .inl rfl⟩
  | logged h1 =>
    left
    obtain ⟨ist1, r1⟩ := y
    cases r1 <;> exact h1.mono Ext.emit
  | @good st1 ist1 r1 h2 =>
    right
    cases r1 with
    | found id =>
      simp only []
      rw [h2.fileOf, h2.tags]
      exact h2.emit rfl
    | err e => exact h2.emit rfl
    | none => exact h2.emit rfl

/-- `runTop` and `idealTop` compute the directory of the calling script by two copies of the same `match`, which the
unifier identifies -/
theorem top_sim {t : Tree} {st : St} {ist : ISt} (c : TopCall) (h : Agree t st ist) :
    Agree t (runTop t st c) (idealTop t ist c) :=
  top_step (h.elim (fun h => .logged (h.mono ((idealOK t topFuel).res ist _ c.spelling)))
    ((sim_all t topFuel).1 _ c.spelling))

theorem hist_sim {t : Tree} (calls : List TopCall) {st : St} {ist : ISt} (h : Agree t st ist) :
    Agree t (calls.foldl (runTop t) st) (calls.foldl (idealTop t) ist) := by
  induction calls generalizing st ist with
  | nil => exact h
  | cons c cs ih => exact ih (top_sim c h)

theorem R.init (t : Tree) : R t {} {} := by
  constructor <;> simp [alookup]

/-- the run mentions no exhausted fuel -/
def NoFuelErr (log : List Ev) : Prop :=
  ∀ e ∈ log, e ≠ .topErr .outOfFuel ∧ ∀ s, e ≠ .caught s .outOfFuel

/-- **Cache transparency**: with its four caches, the code produces exactly the observable log of the cache-free
reference semantics (loader-call events aside, which the reference semantics does not have). -/
theorem cache_transparent (t : Tree) (calls : List TopCall)
    (hfuel : NoFuelErr (idealHistory t calls).log) :
    (runHistory t calls).log.filter (fun e => !e.isLoad) = (idealHistory t calls).log := by
  rcases hist_sim calls (.inr (R.init t)) with ⟨e, he, h | ⟨s, h⟩⟩ | h
  · exact absurd h (hfuel e he).1
  · exact absurd h ((hfuel e he).2 s)
  · exact h.log

/-- core module `fs`, and a registry-native module registered as `node:fs` -/
def aliasCexTree : Tree :=
  { file := [], loadErr := [], pkgMain := [], globalFolders := [], regNative := ["node:fs"], globNative := [],
    core := ["fs"] }

/-- the history on which code and reference semantics differ if `require("fs")` makes `node:fs` an alias of the core
module although a native module is registered under that name: both logs, explicitly -/
theorem alias_regression :
    (runHistory aliasCexTree [⟨none, "fs"⟩, ⟨none, "node:fs"⟩]).log.filter (fun e => !e.isLoad) =
      [.native "C" "fs" 0, .top 0 none [], .native "R" "node:fs" 1, .top 1 none []] ∧
    (idealHistory aliasCexTree [⟨none, "fs"⟩, ⟨none, "node:fs"⟩]).log =
      [.native "C" "fs" 0, .top 0 none [], .native "R" "node:fs" 1, .top 1 none []] := by
  -- by evaluation; the string functions are defined by well-founded recursion, which `rfl` unfolds only when told to
  constructor <;> with_unfolding_all rfl

end GN.Require
