import GN.Buffer.Num

/-! Lemmas about the kernels *generated* from buffer.go (re-proved on every run against the current source). -/

namespace GN.Buffer
open GN

/-- the shape of every generated guard: a signed comparison with a lower and an upper bound -/
theorem within_iff (v lo hi : I64) :
    (if (BitVec.slt v lo || BitVec.slt hi v) then false else true) = true ↔ lo.toInt ≤ v.toInt ∧ v.toInt ≤ hi.toInt := by
  simp [BitVec.slt]

theorem ensureWithinInt16Range_spec (v : I64) :
    Generated.ensureWithinInt16Range v = true ↔ Representable true 2 v.toInt := by
  rw [Generated.ensureWithinInt16Range, within_iff, Representable]
  simp
  omega

theorem ensureWithinInt32Range_spec (v : I64) :
    Generated.ensureWithinInt32Range v = true ↔ Representable true 4 v.toInt := by
  rw [Generated.ensureWithinInt32Range, within_iff, Representable]
  simp
  omega

theorem ensureWithinUInt16Range_spec (v : I64) :
    Generated.ensureWithinUInt16Range v = true ↔ Representable false 2 v.toInt := by
  rw [Generated.ensureWithinUInt16Range, within_iff, Representable]
  simp
  omega

theorem ensureWithinUInt32Range_spec (v : I64) :
    Generated.ensureWithinUInt32Range v = true ↔ Representable false 4 v.toInt := by
  rw [Generated.ensureWithinUInt32Range, within_iff, Representable]
  simp
  omega

theorem writeInt8_valueGuard_spec (v : I64) :
    Generated.writeInt8_valueGuard v = true ↔ Representable true 1 v.toInt := by
  rw [Generated.writeInt8_valueGuard, within_iff, Representable]
  simp
  omega

theorem writeUInt8_valueGuard_spec (v : I64) :
    Generated.writeUInt8_valueGuard v = true ↔ Representable false 1 v.toInt := by
  rw [Generated.writeUInt8_valueGuard, within_iff, Representable]
  simp
  omega

/-- The width is a `Fin 7` with `1 ≤ w`: the variable-width methods take a `byteLength` of 1..6
(`getVariableLengthArguments_guard`), and a `Fin` makes the case split on it finite.  The bounds are
`Representable true w` and, below, `Representable false w`, unfolded. -/
theorem ensureWithinIntRange_spec (v : I64) (w : Fin 7) (hw : 1 ≤ w.val) :
    Generated.ensureWithinIntRange (BitVec.ofNat 64 w.val) v = true ↔
      (-(2 ^ (8 * w.val - 1) : Int) ≤ v.toInt ∧ v.toInt < 2 ^ (8 * w.val - 1)) := by
  unfold Generated.ensureWithinIntRange
  rw [within_iff]
  match w, hw with
  | ⟨1, _⟩, _ | ⟨2, _⟩, _ | ⟨3, _⟩, _ | ⟨4, _⟩, _ | ⟨5, _⟩, _ | ⟨6, _⟩, _ =>
    simp
    omega

theorem ensureWithinUIntRange_spec (v : I64) (w : Fin 7) (hw : 1 ≤ w.val) :
    Generated.ensureWithinUIntRange (BitVec.ofNat 64 w.val) v = true ↔
      (0 ≤ v.toInt ∧ v.toInt < 2 ^ (8 * w.val)) := by
  unfold Generated.ensureWithinUIntRange
  rw [within_iff]
  match w, hw with
  | ⟨1, _⟩, _ | ⟨2, _⟩, _ | ⟨3, _⟩, _ | ⟨4, _⟩, _ | ⟨5, _⟩, _ | ⟨6, _⟩, _ =>
    simp
    omega

theorem shl_sshr_toInt (v : I64) {k : Nat} (hk : 1 ≤ k) (hk' : k ≤ 64) :
    ((v <<< (64 - k)).sshiftRight (64 - k)).toInt = Int.bmod v.toInt (2 ^ k) := by
  have h64 : (2 : Nat) ^ 64 = 2 ^ (64 - k) * 2 ^ k := (Nat.pow_sub_mul_pow 2 hk').symm
  -- the left shift is `(2^(64-k) * v.toNat).bmod (2^(64-k) * 2^k) = 2^(64-k) * v.toNat.bmod (2^k)`, and the right shift
  -- divides the factor out again; on the right, `v.toInt` and `v.toNat` agree modulo `2^k`
  rw [BitVec.toInt_sshiftRight, BitVec.toInt_shiftLeft, Int.shiftRight_eq_div_pow, Nat.shiftLeft_eq, h64,
    Nat.mul_comm v.toNat, Int.natCast_mul,
    Int.mod_bmod_mul_of_pos _ _ (Nat.pow_pos (by decide)) (Nat.pow_dvd_pow 2 hk), Int.natCast_pow,
    Int.mul_ediv_cancel_left _ (Int.pow_ne_zero (by decide)),
    BitVec.toInt_eq_toNat_bmod, Int.bmod_bmod_of_dvd ⟨2 ^ (64 - k), by rw [h64, Nat.mul_comm]⟩]

theorem signExtend_spec (v : I64) (w : Fin 7) (hw : 1 ≤ w.val) :
    (Generated.signExtend v (BitVec.ofNat 64 w.val)).toInt = Int.bmod v.toInt (2 ^ (8 * w.val)) := by
  have := w.isLt
  -- the shift amount does not wrap for the seven widths
  have hs : ∀ w : Fin 7, ((64 : I64) - 8 * BitVec.ofNat 64 w.val).toNat = 64 - 8 * w.val := by decide
  rw [Generated.signExtend, BitVec.sshiftRight_eq', BitVec.shiftLeft_eq', hs]
  exact shl_sshr_toInt v (by omega) (by omega)

/-- holds of every int64 offset because the source compares `offset` with `len - numBytes`; of
`offset + numBytes > len`, which wraps, it is false -/
theorem getOffsetArgument_guard_spec (n off len : I64)
    (hn : 0 ≤ n.toInt ∧ n.toInt ≤ 8) (hl : 0 ≤ len.toInt) :
    Generated.getOffsetArgument_guard n off len = true ↔ (0 ≤ off.toInt ∧ off.toInt + n.toInt ≤ len.toInt) := by
  have h3 := BitVec.toInt_lt (x := len)
  rw [Generated.getOffsetArgument_guard, within_iff,
    show (len - n).toInt = len.toInt - n.toInt by rw [BitVec.toInt_sub]; apply Int.bmod_eq_of_le <;> omega]
  show 0 ≤ off.toInt ∧ _ ↔ _
  omega

theorem getVariableLengthArguments_guard_spec (off bl len : I64) (hl : 0 ≤ len.toInt) :
    Generated.getVariableLengthArguments_guard off bl len = true ↔
      ((1 ≤ bl.toInt ∧ bl.toInt ≤ 6) ∧ 0 ≤ off.toInt ∧ off.toInt + bl.toInt ≤ len.toInt) := by
  have h3 := BitVec.toInt_lt (x := len)
  -- two guards in sequence: the second is reached when the first has passed
  have seq (c x : Bool) : (if c then false else x) = true ↔ (if c then false else true) = true ∧ x = true := by
    cases c <;> simp
  rw [Generated.getVariableLengthArguments_guard, seq, within_iff, within_iff]
  refine and_congr_right fun (hb : 1 ≤ bl.toInt ∧ bl.toInt ≤ 6) => ?_
  rw [show (len - bl).toInt = len.toInt - bl.toInt by rw [BitVec.toInt_sub]; apply Int.bmod_eq_of_le <;> omega]
  show 0 ≤ off.toInt ∧ _ ↔ _
  omega

end GN.Buffer
