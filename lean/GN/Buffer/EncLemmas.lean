import GN.Buffer.Num

/-! Lemmas about the byte-level definitions of `Num.lean`: an `I64` as an integer; the store loop is a splice; decoding
    inverts encoding; the code's shift-or loop reads base-256 digits back, and the bytes its shifts produce are those
    digits. -/

namespace GN.Buffer
open GN

/-! The coercions produce `I64`s where the specification has integers: a value in range is kept (`i64OfInt_toInt`,
`ofNat_toInt_small`), and any value is kept modulo `2 ^ (8 * k)` for `k ≤ 8` (`ofInt_toInt_emod`), which is all that
`enc k` looks at (`enc_congr`). -/

theorem toIntegerClip_bounds (f : F64) : -(2 ^ 63 : Int) ≤ f.toIntegerClip ∧ f.toIntegerClip < 2 ^ 63 := by
  unfold F64.toIntegerClip
  by_cases h1 : f.isNaN = true
  · rw [if_pos h1]; omega
  · rw [if_neg h1]
    by_cases h2 : f.isInf = true
    · rw [if_pos h2]; split <;> omega
    · rw [if_neg h2]
      -- whatever the truncated value, the two clamps put it into range
      simp only []
      generalize (if f.sign = true then -(f.truncMag : Int) else f.truncMag) = v
      omega

theorem i64OfInt_toInt {n : Int} (h : -(2 ^ 63 : Int) ≤ n ∧ n < 2 ^ 63) : (i64OfInt n).toInt = n := by
  unfold i64OfInt
  rw [BitVec.toInt_ofInt]
  apply Int.bmod_eq_of_le <;> omega

theorem i64OfInt_clip_toInt (f : F64) : (i64OfInt f.toIntegerClip).toInt = f.toIntegerClip :=
  i64OfInt_toInt (toIntegerClip_bounds f)

theorem ofNat_toInt_small {n : Nat} (h : n < 2 ^ 62) : (BitVec.ofNat 64 n).toInt = n := by
  rw [BitVec.toInt_ofNat']
  apply Int.bmod_eq_of_le <;> omega

theorem lenI64_toInt {buf : List UInt8} (h : buf.length < 2 ^ 62) : (lenI64 buf).toInt = buf.length :=
  ofNat_toInt_small h

theorem toNat_of_toInt_eq {x : I64} {n : Int} (h : x.toInt = n) (hn : 0 ≤ n) : x.toNat = n.toNat := by
  subst h
  rw [BitVec.toInt_eq_toNat_of_lt (BitVec.toInt_pos_iff.mp hn), Int.toNat_natCast]

theorem ofInt_toInt_emod (n : Int) {k : Nat} (hk : k ≤ 8) :
    (i64OfInt n).toInt % 2 ^ (8 * k) = n % 2 ^ (8 * k) := by
  have hd : (2 : Int) ^ (8 * k) ∣ ((2 ^ 64 : Nat) : Int) := by
    refine ⟨2 ^ (64 - 8 * k), ?_⟩
    rw [← Int.pow_add, show 8 * k + (64 - 8 * k) = 64 by omega]; rfl
  unfold i64OfInt
  rw [BitVec.toInt_ofInt, ← Int.emod_emod_of_dvd _ hd, Int.bmod_emod, Int.emod_emod_of_dvd _ hd]

theorem signExtendTo_toInt {k : Nat} (hk : k ≤ 64) (raw : I64) :
    (signExtendTo k raw).toInt = Int.bmod raw.toNat (2 ^ k) := by
  unfold signExtendTo
  rw [BitVec.toInt_signExtend_of_le hk, BitVec.toInt_setWidth]

theorem sliceAt_ok {buf : List UInt8} {o w : I64} (h : InRange o.toInt w.toInt buf.length) (hw : 0 ≤ w.toInt) :
    sliceAt buf o w = .ok ((buf.drop o.toInt.toNat).take w.toInt.toNat) := by
  simp [sliceAt, h.1, h.2, hw]

theorem storeAt_length (buf : List UInt8) (off : Nat) (bs : List UInt8) :
    (storeAt buf off bs).length = buf.length := by
  induction bs generalizing buf off with
  | nil => simp [storeAt]
  | cons b bs ih => simp [storeAt, ih]

theorem storeAt_eq_splice {buf : List UInt8} {off : Nat} {bs : List UInt8}
    (h : off + bs.length ≤ buf.length) : storeAt buf off bs = splice buf off bs := by
  induction bs generalizing buf off with
  | nil => simp [storeAt, splice]
  | cons b bs ih =>
    simp only [storeAt]
    rw [ih (by simp at h ⊢; omega)]
    simp only [splice, List.length_cons]
    have h1 : (buf.set off b).take (off + 1) = buf.take off ++ [b] := by
      rw [List.take_add_one, List.take_set_of_le (Nat.le_refl off)]
      simp at h
      have : off < buf.length := by omega
      simp [this]
    have h2 : (buf.set off b).drop (off + 1 + bs.length) = buf.drop (off + (bs.length + 1)) := by
      rw [List.drop_set_of_lt (by omega)]
      congr 1; omega
    rw [h1, h2]; simp

theorem splice_length {buf : List UInt8} {off : Nat} {bs : List UInt8} (h : off + bs.length ≤ buf.length) :
    (splice buf off bs).length = buf.length := by
  simp [splice]; omega

theorem splice_getElem?_outside {buf : List UInt8} {off : Nat} {bs : List UInt8} {i : Nat}
    (h : off + bs.length ≤ buf.length) (hi : i < off ∨ off + bs.length ≤ i) :
    (splice buf off bs)[i]? = buf[i]? := by
  simp only [splice]
  rcases hi with hi | hi
  · rw [List.append_assoc, List.getElem?_append_left (by simp; omega)]
    simp [hi]
  · rw [List.getElem?_append_right (by simp; omega)]
    simp
    congr 1; omega

theorem splice_window {buf : List UInt8} {off : Nat} {bs : List UInt8} (h : off + bs.length ≤ buf.length) :
    ((splice buf off bs).drop off).take bs.length = bs := by
  simp only [splice]
  have : (buf.take off).length = off := by simp; omega
  rw [List.append_assoc, List.drop_append_of_le_length (by omega)]
  simp

theorem digitsLE_succ (w n : Nat) :
    digitsLE (w + 1) n = UInt8.ofNat (n % 256) :: digitsLE w (n / 256) := by
  have h (i : Nat) : n / 2 ^ (8 * (i + 1)) = n / 256 / 2 ^ (8 * i) := by
    rw [Nat.div_div_eq_div_mul, Nat.mul_add, Nat.pow_add, Nat.mul_comm]
  simp only [digitsLE, List.range_succ_eq_map, List.map_cons, List.map_map, Function.comp_def, h, Nat.mul_zero,
    Nat.pow_zero, Nat.div_one]

theorem decLE_digitsLE (w n : Nat) : decLE (digitsLE w n) = n % 2 ^ (8 * w) := by
  induction w generalizing n with
  | zero => simp [digitsLE, decLE, Nat.mod_one]
  | succ w ih =>
    rw [digitsLE_succ, decLE, ih]
    have : (UInt8.ofNat (n % 256)).toNat = n % 256 := by
      simp [UInt8.toNat_ofNat']
    rw [this, show 8 * (w + 1) = 8 + 8 * w by omega, Nat.pow_add]
    rw [show (2:Nat) ^ 8 = 256 by rfl, Nat.mod_mul]

theorem digitsLE_length (w n : Nat) : (digitsLE w n).length = w := by simp [digitsLE]

theorem enc_length (w : Nat) (be : Bool) (x : Int) : (enc w be x).length = w := by
  unfold enc encLE; split <;> simp [digitsLE_length]

theorem enc_congr {w : Nat} {x y : Int} (h : x % 2 ^ (8 * w) = y % 2 ^ (8 * w)) (be : Bool) :
    enc w be x = enc w be y := by
  unfold enc encLE; rw [h]

theorem decUnsigned_enc (w : Nat) (be : Bool) (x : Int) :
    (decUnsigned be (enc w be x) : Int) = x % 2 ^ (8 * w) := by
  have hpos : (0 : Int) < 2 ^ (8 * w) := Int.pow_pos (by decide)
  have hnn : 0 ≤ x % 2 ^ (8 * w) := Int.emod_nonneg _ (by omega)
  have hlt : x % 2 ^ (8 * w) < 2 ^ (8 * w) := Int.emod_lt_of_pos _ hpos
  have key : decLE (encLE w x) = (x % 2 ^ (8 * w)).toNat := by
    unfold encLE
    rw [decLE_digitsLE]
    apply Nat.mod_eq_of_lt
    have : ((x % 2 ^ (8 * w)).toNat : Int) < 2 ^ (8 * w) := by rw [Int.toNat_of_nonneg hnn]; exact hlt
    exact_mod_cast this
  unfold decUnsigned enc
  cases be <;> simp [key, Int.toNat_of_nonneg hnn]

theorem decUnsigned_enc_of_repr {w : Nat} (be : Bool) {x : Int} (h : Representable false w x) :
    (decUnsigned be (enc w be x) : Int) = x := by
  rw [decUnsigned_enc]
  unfold Representable at h; simp at h
  exact Int.emod_eq_of_lt h.1 h.2

theorem decLE_lt (bs : List UInt8) : decLE bs < 256 ^ bs.length := by
  induction bs with
  | nil => simp [decLE]
  | cons b bs ih =>
    simp only [decLE, List.length_cons, Nat.pow_succ]
    have := b.toNat_lt
    omega

theorem decUnsigned_lt (be : Bool) (bs : List UInt8) : decUnsigned be bs < 2 ^ (8 * bs.length) := by
  unfold decUnsigned
  have h := decLE_lt (if be = true then bs.reverse else bs)
  have hl : (if be = true then bs.reverse else bs).length = bs.length := by split <;> simp
  rw [hl] at h
  rwa [Nat.pow_mul]

theorem loadStep_toNat {acc : I64} (b : UInt8) (h : acc.toNat < 2 ^ 56) :
    ((acc <<< 8) ||| BitVec.ofNat 64 b.toNat).toNat = acc.toNat * 256 + b.toNat := by
  have hb := b.toNat_lt
  rw [BitVec.toNat_or, BitVec.toNat_shiftLeft, BitVec.toNat_ofNat]
  rw [Nat.mod_eq_of_lt (a := b.toNat) (by omega)]
  rw [Nat.shiftLeft_eq, Nat.mod_eq_of_lt (by omega)]
  rw [← Nat.shiftLeft_eq, ← Nat.shiftLeft_add_eq_or_of_lt (by omega), Nat.shiftLeft_eq]

/-- the loop over `bs` is a right fold over `bs.reverse`, and `decLE` is one: least significant byte outermost.
Seven bytes below the one shifted in leave room in 64 bits. -/
theorem loadBE_toNat {bs : List UInt8} (h : bs.length ≤ 8) : (loadBE bs).toNat = decLE bs.reverse := by
  rw [loadBE, ← List.foldr_reverse]
  have h : bs.reverse.length ≤ 8 := by simpa using h
  generalize bs.reverse = rs at h
  induction rs with
  | nil => rfl
  | cons b rs ih =>
    have ih := ih (by simp at h; omega)
    have hlt := decLE_lt rs
    have : (256 : Nat) ^ rs.length ≤ 256 ^ 7 := Nat.pow_le_pow_right (by decide) (by simp at h; omega)
    rw [List.foldr_cons, loadStep_toNat b (by omega), ih, decLE]
    omega

theorem loadBytes_toNat_eq_decUnsigned (be : Bool) (bs : List UInt8) (h : bs.length ≤ 8) :
    (loadBytes be bs).toNat = decUnsigned be bs := by
  unfold loadBytes decUnsigned
  cases be
  · simp only [Bool.false_eq_true, if_false]
    rw [loadBE_toNat (by simpa using h), List.reverse_reverse]
  · simp only [if_true]
    exact loadBE_toNat h

theorem pow2_cast (n : Nat) : (2 : Int) ^ n = ((2 ^ n : Nat) : Int) := by simp

theorem decSigned_eq_bmod (be : Bool) (bs : List UInt8) :
    decSigned be bs = Int.bmod (decUnsigned be bs) (2 ^ (8 * bs.length)) := by
  have hlt := decUnsigned_lt be bs
  unfold decSigned
  simp only []
  split
  · rw [← Int.sub_mul_bmod_self_right _ 1, Int.bmod_eq_of_le_mul_two (by omega) (by omega), Int.one_mul,
      Int.natCast_pow]
    rfl
  · exact (Int.bmod_eq_of_le_mul_two (by omega) (by omega)).symm

theorem decSigned_enc_of_repr {w : Nat} (hw : 1 ≤ w) (be : Bool) {x : Int} (h : Representable true w x) :
    decSigned be (enc w be x) = x := by
  simp only [Representable, if_true, pow2_cast] at h
  rw [decSigned_eq_bmod, enc_length, decUnsigned_enc, pow2_cast,
    Int.emod_bmod, ← Nat.two_pow_pred_mul_two (w := 8 * w) (by omega)]
  apply Int.bmod_eq_of_le <;> omega

theorem emod_mul_ediv {a : Int} (ha : 0 < a) (x b : Int) : x % (a * b) / a = x / a % b := by
  -- both `%` as `x - d * (x / d)`, with `x / (a * b) = x / a / b`; then `a * (b * _)` comes out of the division by `a`
  rw [Int.emod_def, Int.emod_def, ← Int.ediv_ediv_of_nonneg (Int.le_of_lt ha), Int.mul_assoc, Int.sub_eq_add_neg,
    ← Int.mul_neg, Int.add_mul_ediv_left _ _ (Int.ne_of_gt ha), ← Int.sub_eq_add_neg]

/-- digit `i` as `digitsLE` takes it, of the natural number `x mod 2^(8w)`, and as the code's arithmetic shift takes it,
of the integer `x`: `2^(8i) * 256` divides `2^(8w)`, so reducing modulo `2^(8w)` first changes nothing -/
theorem toNat_emod_div {i w : Nat} (h : i < w) (x : Int) :
    ((x % 2 ^ (8 * w)).toNat / 2 ^ (8 * i)) % 256 = ((x / 2 ^ (8 * i)) % 256).toNat := by
  have hd : (2 : Int) ^ (8 * i) * 256 ∣ 2 ^ (8 * w) :=
    ⟨2 ^ (8 * (w - i - 1)), by rw [show (256 : Int) = 2 ^ 8 from rfl, ← Int.pow_add, ← Int.pow_add]; congr 1; omega⟩
  rw [← emod_mul_ediv (Int.pow_pos (by decide)), ← Int.emod_emod_of_dvd x hd]
  obtain ⟨n, hn⟩ := Int.eq_ofNat_of_zero_le (Int.emod_nonneg x (Int.pow_ne_zero (by decide) : (2 : Int) ^ (8 * w) ≠ 0))
  rw [hn, Int.toNat_natCast, ← Nat.mod_mul_right_div_self, ← Int.toNat_natCast (n % (2 ^ (8 * i) * 256) / 2 ^ (8 * i)),
    Int.natCast_ediv, Int.natCast_emod, Int.natCast_mul, Int.natCast_pow]
  rfl

theorem byteOfI64_eq (v : I64) {i w : Nat} (h : i < w) :
    byteOfI64 v (8 * i) = UInt8.ofNat (((v.toInt % 2 ^ (8 * w)).toNat / 2 ^ (8 * i)) % 256) := by
  unfold byteOfI64
  rw [BitVec.toInt_sshiftRight, Int.shiftRight_eq_div_pow, toNat_emod_div h]
  rfl

theorem intBytes_eq_enc (w : Nat) (be : Bool) (v : I64) : intBytes w be v = enc w be v.toInt := by
  unfold intBytes enc encLE digitsLE
  cases be
  · simp only [Bool.false_eq_true, if_false]
    apply List.map_congr_left
    intro i hi
    exact byteOfI64_eq v (List.mem_range.mp hi)
  · simp only [if_true]
    -- `(range w).reverse` is `(range w).map (w - 1 - ·)`
    rw [← List.map_reverse, List.range_eq_range', List.reverse_range', Nat.zero_add, ← List.range_eq_range',
      List.map_map]
    apply List.map_congr_left
    intro i hi
    have := List.mem_range.mp hi
    exact byteOfI64_eq v (by omega)

end GN.Buffer
