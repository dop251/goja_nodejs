/-!
# The bytes of a `ByteArray` and of a `String`, as lists

Core's `ByteArray.toList` is a loop over indices and `String.toUTF8` a byte array; the models work with `List UInt8`.
-/

namespace GN

theorem byteArray_toList_loop (bs : ByteArray) (i : Nat) (r : List UInt8) :
    ByteArray.toList.loop bs i r = r.reverse ++ bs.data.toList.drop i := by
  fun_induction ByteArray.toList.loop bs i r with
  | case1 i r h ih =>
    have hi : i < bs.data.toList.length := by simpa using h
    rw [ih, List.drop_eq_getElem_cons hi]
    simp [ByteArray.get!, ← ByteArray.getElem_eq_getElem_data, h]
  | case2 i r h =>
    rw [List.drop_of_length_le (by simpa using h), List.append_nil]

theorem byteArray_toList (bs : ByteArray) : bs.toList = bs.data.toList := by
  simp [ByteArray.toList, byteArray_toList_loop]

theorem utf8_bytes (cs : List Char) :
    (String.ofList cs).toUTF8.toList = cs.flatMap String.utf8EncodeChar := by
  simp [byteArray_toList, List.utf8Encode]

end GN
