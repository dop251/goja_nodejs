import GN.Require.Ideal
import GN.Require.CacheLemmas

/-!
# C01 — require(): one evaluation and one exports identity per module per runtime

Theorems about the reference semantics `GN.Require.Ideal` (what the property demands), to which the model of
the code (`GN.Require.Eval`, with its caches) is tied by the cache-transparency theorem
(`GN/Require/CacheLemmas.lean`) and, on every run, by comparing the real require() with both.
-/

namespace GN.Props.C01
open GN GN.Require

/-- **Identity, at most one evaluation, cycles**: a file that is being evaluated or has been evaluated
successfully is never entered again — any request that selects it gets the same module, and nothing is logged
or changed (in particular no second `enter`). The requirer of a module that is still in progress therefore
sees the exports it has populated so far. -/
theorem cached_file_not_reentered (t : Tree) (fuel : Nat) (st : ISt) (path : Path) (id : Nat)
    (h : alookup st.mods path = some id) : idealLoad t (fuel + 1) st path = (st, .found id) := by
  simp [idealLoad, h]

/-- the module is registered *before* its body runs (that is what makes a dependency cycle terminate), under
the identity its requirers will see -/
theorem registered_before_body (t : Tree) (fuel : Nat) (st : ISt) (path : Path) (body : List Act)
    (hm : alookup st.mods path = none) (hl : path ∉ t.loadErr)
    (hf : alookup t.file path = some (.js body)) :
    ∃ st0, alookup st0.mods path = some st.next ∧ st0.log = st.log ++ [.enter path st.next] ∧
      idealLoad t (fuel + 1) st path =
        match idealBody t fuel st0 (dir path) st.next body with
        | (st', none) => (st', .found st.next)
        | (st', some e) => ({ st' with mods := aerase st'.mods path }, .err e) := by
  refine ⟨({ st with next := st.next + 1, mods := ainsert st.mods path st.next,
                      fileOf := ainsert st.fileOf st.next path }).emit (.enter path st.next), ?_, ?_, ?_⟩
  · simp [ISt.emit, alookup_ainsert]
  · simp [ISt.emit]
  · simp [idealLoad, hm, hl, hf]
    rfl

/-- **A failed module does not stay cached**: whatever error ends the load of a file that was not cached, the
file is not cached afterwards, so a later request evaluates it afresh. -/
theorem failed_module_not_cached (t : Tree) (fuel : Nat) (st st' : ISt) (path : Path) (e : ErrTok)
    (hm : alookup st.mods path = none)
    (h : idealLoad t (fuel + 1) st path = (st', .err e)) : alookup st'.mods path = none := by
  have post := (idealOK t (fuel + 1)).load st path
  rw [h] at post
  cases post with
  | err _ keep => exact keep hm

/-- **The very same thrown value reaches the requirer**: a `throw` ends the body with exactly that value, and an
uncaught failure of a nested require ends the requiring body with exactly the value the nested load produced. -/
theorem thrown_value_is_delivered (t : Tree) (fuel : Nat) (st : ISt) (d : Path) (self : Nat) (tok : String)
    (rest : List Act) : idealBody t (fuel + 1) st d self (.throw tok :: rest) = (st, some (.thrown tok)) := by
  simp [idealBody]

theorem uncaught_error_propagates_unchanged (t : Tree) (fuel : Nat) (st st' : ISt) (d : Path) (self : Nat)
    (spelling : String) (rest : List Act) (e : ErrTok)
    (h : idealResolve t fuel st d spelling = (st', .err e)) :
    idealBody t (fuel + 1) st d self (.req spelling false :: rest) = (st', some e) := by
  simp [idealBody, h]

/-- **Cache transparency — the code behaves like the reference semantics.** For every tree, every registration
set and every history of top-level calls (from scripts anywhere and from Go), the model of the code with its four
caches (files by path, native/core by name with `node:` aliases, requests by resolved path, node_modules
lookups by (directory, name); forget-on-failure) produces exactly the observable log of the cache-free reference
semantics, loader calls aside. Hence every theorem above (identity, at most one evaluation, cycles, failure not
cached, thrown value delivered), C02's selection and C15's lookup hold of the code model after any history.
The only side condition is about evaluation fuel (the reference run must not have exhausted its depth bound). -/
theorem code_equals_reference (t : Tree) (calls : List TopCall)
    (hfuel : NoFuelErr (idealHistory t calls).log) :
    (runHistory t calls).log.filter (fun e => !e.isLoad) = (idealHistory t calls).log :=
  cache_transparent t calls hfuel

/-- non-vacuity: a body that throws fails with exactly the thrown value and is not cached afterwards -/
example :
    let t : Tree := { file := [("/x.js", .js [.set "t1", .throw "boom"])],
                      loadErr := [], pkgMain := [], globalFolders := [], regNative := [], globNative := [], core := [] }
    (idealLoad t 3 {} "/x.js").2 = .err (.thrown "boom") ∧ alookup (idealLoad t 3 {} "/x.js").1.mods "/x.js" = none := by
  decide +kernel

end GN.Props.C01
