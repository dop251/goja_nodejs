import GN.Buffer.Num
import GN.Buffer.KernelLemmas
import GN.Buffer.EncLemmas
import GN.Buffer.CallLemmas

/-!
# C10 — Buffer numeric read/write: exact encodings and range checks, no stray byte

Everything mentioning `Generated.*` is re-proved against definitions re-emitted from `buffer/buffer.go` on every run.
-/

namespace GN.Props.C10
open GN GN.Buffer

/-- every name the specification knows is a registered method with well-formed facts -/
theorem every_specified_name_is_registered (jsName : String) (d : Desc) (h : descOfName jsName = some d) :
    ∃ impl m, implOf jsName = some impl ∧ lookupFacts impl = some m ∧ WF m d = true := by
  have := nameOK_all jsName
  simp only [nameOK, h] at this
  split at this
  · cases this
  · next m hb =>
    obtain ⟨impl, hi, hm⟩ := Option.bind_eq_some_iff.mp hb
    exact ⟨impl, m, hi, hm, this⟩

/-- **Method table.** Every numeric method the library registers (all `Uint`/`UInt` aliases included)
is bound to an implementation whose width, signedness, byte order and kind — read off the Go source —
are the ones its *name* prescribes. -/
theorem method_table_matches_names :
    ∀ e ∈ Generated.bufferProtoSet, (descOfName e.1).isSome = true →
      (lookupFacts e.2).map descOfFacts = descOfName e.1 := by
  intro e he hs
  obtain ⟨d, hd⟩ := Option.isSome_iff_exists.mp hs
  obtain ⟨impl, m, hi, hm, hwf⟩ := every_specified_name_is_registered e.1 d hd
  rw [(implOf_twins he).1] at hi
  rw [Option.some.inj hi, hm, hd, Option.map_some, (WFP.of_WF hwf).desc]

/-- **Return value of a write.** Every write method returns the offset plus *its own width*: the constant the
Go source adds to the offset (regenerated) is the method's byte count, and the variable-width methods add the
`byteLength` they were given.  (A method that stored two bytes and returned offset+1 would keep every other
theorem true: the model takes the constant from the source.) -/
theorem write_returns_offset_plus_width :
    ∀ m ∈ Generated.bufferMethodFacts, m.dir = "write" →
      (m.numBytes ≠ 0 → m.retAdd = toString m.numBytes) ∧ (m.numBytes = 0 → m.retAdd = "byteLength") := by decide +kernel

/-- the `Uint` spelling of every method is registered and bound to the same implementation as `UInt` -/
theorem aliases_bound_to_twin :
    ∀ e ∈ Generated.bufferProtoSet, ∀ e' ∈ Generated.bufferProtoSet,
      normUint e.1.toList = e'.1.toList → e.2 = e'.2 := by
  intro e he e' he' h
  have h1 := (implOf_twins he).2
  rw [h, String.ofList_toList, (implOf_twins he').1] at h1
  exact (Option.some.inj h1).symm

/-- non-vacuity: the table is populated (65 prototype entries, 44 distinct numeric implementations) -/
example : Generated.bufferProtoSet.length = 65 ∧ Generated.bufferMethodFacts.length = 44 := by decide +kernel

/-- **Offset guard (fixed width).** For *every* int64 offset — no wrap-around — the guard passes exactly
when `offset … offset+numBytes` lies inside the buffer. -/
theorem offset_guard_exact (n off len : I64) (hn : 0 ≤ n.toInt ∧ n.toInt ≤ 8) (hl : 0 ≤ len.toInt) :
    Generated.getOffsetArgument_guard n off len = true ↔ InRange off.toInt n.toInt len.toInt.toNat := by
  rw [getOffsetArgument_guard_spec n off len hn hl, InRange, Int.toNat_of_nonneg hl]

/-- **Offset/byteLength guard (variable width).** For *every* int64 offset and byteLength, the guard passes exactly
when the byteLength is 1..6 and `offset … offset+byteLength` lies inside the buffer. -/
theorem var_guard_exact (off bl len : I64) (hl : 0 ≤ len.toInt) :
    Generated.getVariableLengthArguments_guard off bl len = true ↔
      ((1 ≤ bl.toInt ∧ bl.toInt ≤ 6) ∧ InRange off.toInt bl.toInt len.toInt.toNat) := by
  rw [getVariableLengthArguments_guard_spec off bl len hl, InRange, Int.toNat_of_nonneg hl]

/-- **Range checks = representability**, for every int64 value and every width. -/
theorem range_checks_exact (v : I64) :
    (Generated.writeInt8_valueGuard v = true ↔ Representable true 1 v.toInt) ∧
    (Generated.writeUInt8_valueGuard v = true ↔ Representable false 1 v.toInt) ∧
    (Generated.ensureWithinInt16Range v = true ↔ Representable true 2 v.toInt) ∧
    (Generated.ensureWithinUInt16Range v = true ↔ Representable false 2 v.toInt) ∧
    (Generated.ensureWithinInt32Range v = true ↔ Representable true 4 v.toInt) ∧
    (Generated.ensureWithinUInt32Range v = true ↔ Representable false 4 v.toInt) ∧
    (∀ w : Fin 7, 1 ≤ w.val →
      (Generated.ensureWithinIntRange (BitVec.ofNat 64 w.val) v = true ↔ Representable true w.val v.toInt)) ∧
    (∀ w : Fin 7, 1 ≤ w.val →
      (Generated.ensureWithinUIntRange (BitVec.ofNat 64 w.val) v = true ↔ Representable false w.val v.toInt)) :=
  ⟨writeInt8_valueGuard_spec v, writeUInt8_valueGuard_spec v, ensureWithinInt16Range_spec v,
    ensureWithinUInt16Range_spec v, ensureWithinInt32Range_spec v, ensureWithinUInt32Range_spec v,
    fun w hw => ensureWithinIntRange_spec v w hw, fun w hw => ensureWithinUIntRange_spec v w hw⟩

/-- **Stored bytes.** The bytes the code's shift loop / `binary.*Endian.Put*` produce for an int64 value
are exactly its two's-complement base-256 digits in the stated order — for every width and value. -/
theorem stored_bytes_are_twos_complement (w : Nat) (be : Bool) (v : I64) :
    intBytes w be v = enc w be v.toInt := intBytes_eq_enc w be v

/-- **Placement and frame.** Storing `bs` at an in-range offset changes positions `off … off+|bs|-1`
to `bs` and nothing else; the length is unchanged. -/
theorem store_places_exactly (buf : List UInt8) (off : Nat) (bs : List UInt8) (h : off + bs.length ≤ buf.length) :
    storeAt buf off bs = splice buf off bs ∧
    (storeAt buf off bs).length = buf.length ∧
    ((storeAt buf off bs).drop off).take bs.length = bs ∧
    (∀ i, (i < off ∨ off + bs.length ≤ i) → (storeAt buf off bs)[i]? = buf[i]?) := by
  rw [storeAt_eq_splice h]
  exact ⟨rfl, splice_length h, splice_window h, fun _ => splice_getElem?_outside h⟩

/-- **Sign extension** of 1–6 byte reads is two's-complement decoding. -/
theorem sign_extension_exact (v : I64) (w : Fin 7) (hw : 1 ≤ w.val) :
    (Generated.signExtend v (BitVec.ofNat 64 w.val)).toInt = Int.bmod v.toInt (2 ^ (8 * w.val)) :=
  signExtend_spec v w hw

/-- **Round trip.** What was written is what the matching decoder reads, for every width, order and
representable value (signed and unsigned). -/
theorem read_back_what_was_written (w : Nat) (hw : 1 ≤ w) (be : Bool) (x : Int) :
    (Representable true w x → decSigned be (enc w be x) = x) ∧
    (Representable false w x → (decUnsigned be (enc w be x) : Int) = x) :=
  ⟨decSigned_enc_of_repr hw be, decUnsigned_enc_of_repr be⟩

/-- non-vacuity of the round trip: -2 in three bytes big endian is fe ff ff reversed … and decodes back -/
example : enc 3 true (-2) = [0xff, 0xff, 0xfe] ∧ decSigned true [0xff, 0xff, 0xfe] = -2 ∧
    Representable true 3 (-2) := by decide +kernel

/-- a failing call leaves the buffer untouched: in the model every store comes after the last guard
(the correspondence check compares the buffer bytes after every failing call) -/
theorem failure_leaves_buffer_unchanged (m : Generated.MethodFacts) (buf : List UInt8) (args : List JArg)
    (c : ErrClass) (h : (writeModel m buf args).out = .throw c) : (writeModel m buf args).buf = buf := by
  unfold writeModel at *
  cases hc : writeCore m buf args <;> simp_all [finish]

/-- **End to end: the model refines the specification.** For every method name, every buffer, every argument
tuple in the property's claimed domain (integral values/offsets, BigInts, floats; undefined, missing or
wrong-typed arguments), the call as the code performs it — coercions in the code's order, generated guards,
generated range checks, the code's shifts and stores — produces exactly what the name-derived specification
prescribes: the same thrown/returned outcome (RangeError and TypeError being one class), the same returned
number, and the same buffer bytes afterwards; in particular it never panics and a failing call leaves the
buffer unchanged. -/
theorem model_refines_spec (jsName : String) (buf : List UInt8) (args : List JArg) (r : CallResult)
    (hlen : buf.length < 2 ^ 62) (h : specCall jsName buf args = some r) :
    ∃ r', callModel jsName buf args = some r' ∧ Agrees r' r := by
  rw [specCall_eq] at h
  split at h
  · cases h
  · next d hd =>
    obtain ⟨impl, m, hi, hm, hwf⟩ := every_specified_name_is_registered jsName d hd
    exact ⟨_, by simp [callModel, hi, hm], refines_of_WF (WFP.of_WF hwf) hlen h⟩

end GN.Props.C10
