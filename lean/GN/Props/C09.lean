import GN.Props.C09Sites
import GN.StringKey
import GN.Generated.PanicSites
import GN.Buffer.KernelLemmas
import GN.Props.C11
import GN.Props.C05
import GN.Url.ObjLemmas

/-! # C09 — no JavaScript input can crash or hang the host

What a theorem can carry here: (1) the inventory of expressions that *can* raise a Go run-time panic in the anchored
files is recomputed from the source on every run and must equal the reviewed table (`inventory_pinned`), and every
function in that table has a covering argument (`every_site_has_argument`); (2) the covering arguments that are
arithmetic hold for all int64 / all lists, each by the lemma of the component that owns the code (the generated guards,
C11, the URL port setter, C05): the slices taken by the numeric Buffer methods, `toString`,
`write` and `alloc` lie inside the buffer whenever the (regenerated) guard lets the call through, port numbers stay in
range, delays do not overflow.  What a theorem cannot carry — that goja and the Go runtime turn every other failure
into a catchable exception, and that nothing spins — is exercised by the hostile-argument harness (`host-fuzz`) on
every function the library installs; that part is search, not proof, and is labelled so in the evidence. -/

namespace GN.Props.C09
open GN GN.Buffer GN.Buffer.Codec

/-- **the inventory of potential panic sites is the reviewed one** (the left side is regenerated from /repo) -/
theorem inventory_pinned : Generated.panicSites = expectedPanicSites := rfl

/-- every function with a potential panic site has a covering argument in the reviewed table -/
theorem every_site_has_argument :
    expectedPanicSites.all (fun e => (coverage.find? (fun c => c.1 == e.1)).isSome) = true :=
  List.all_eq_true.mpr (find?_of_coveredBy coverage expectedPanicSites (by decide +kernel))

/-- **fixed-width reads and writes stay inside the buffer**: whenever the guard of `getOffsetArgument` (regenerated
from buffer.go) lets a call through, `bb[offset : offset+numBytes]` is in range — for every int64 offset, no
wrap-around -/
theorem fixed_width_access_in_bounds (n off len : I64) (hn : 0 ≤ n.toInt ∧ n.toInt ≤ 8) (hl : 0 ≤ len.toInt)
    (h : Generated.getOffsetArgument_guard n off len = true) :
    0 ≤ off.toInt ∧ off.toInt + n.toInt ≤ len.toInt :=
  (getOffsetArgument_guard_spec n off len hn hl).1 h

/-- **variable-width reads and writes stay inside the buffer**, and the width is 1..6 -/
theorem var_width_access_in_bounds (off bl len : I64) (hl : 0 ≤ len.toInt)
    (h : Generated.getVariableLengthArguments_guard off bl len = true) :
    (1 ≤ bl.toInt ∧ bl.toInt ≤ 6) ∧ 0 ≤ off.toInt ∧ off.toInt + bl.toInt ≤ len.toInt :=
  (getVariableLengthArguments_guard_spec off bl len hl).1 h

/-- `toString(enc, start, end)`: the sub-range it slices is inside the buffer, for every start and end -/
theorem toString_slice_in_bounds (b : Bytes) (start stop : Int)
    (h : ¬ (max start 0 ≥ b.length ∨ stop < 0 ∨ max start 0 ≥ stop)) :
    (max start 0).toNat + (min stop b.length - max start 0).toNat ≤ b.length :=
  GN.Props.C11.toString_range_in_bounds b start stop h

/-- `buf.write`: the number of bytes copied fits behind the offset and into what was decoded -/
theorem write_copy_in_bounds (e : Enc) (buf : Bytes) (s : List UInt16) (offset length : Nat) (ho : offset ≤ buf.length) :
    (write e buf s offset length).1 ≤ buf.length - offset ∧ (write e buf s offset length).2.length = buf.length := by
  have h := GN.Props.C11.write_is_prefix_of_decode e buf s offset length ho
  exact ⟨h.1, h.2.2.1⟩

/-- `Buffer.alloc(size, fill)`: the filled buffer has exactly the requested size -/
theorem fill_has_requested_size (e : Enc) (size : Nat) (s : List UInt16) : (fill e size s).length = size :=
  (GN.Props.C11.fill_repeats_pattern e size s).1

/-- the `port` setter: whatever is assigned, the number that reaches `strconv.Itoa` is -1 (ignored) or 0..65535 -/
theorem port_value_in_range (v : GN.Url.Obj.PortArg) :
    -1 ≤ (GN.Url.Obj.valueToURLPort v).1 ∧ (GN.Url.Obj.valueToURLPort v).1 ≤ 65535 :=
  GN.Url.Obj.valueToURLPort_bound v

/-- timer delays: the conversion to nanoseconds never wraps around (regenerated `msToDuration`) -/
theorem delay_conversion_never_wraps (ms : I64) :
    (0 ≤ ms.toInt → ms.toInt * 1000000 ≤ (Generated.msToDuration ms).toInt ∨
                      (Generated.msToDuration ms).toInt = 2 ^ 63 - 1) ∧
    (ms.toInt < 0 → (Generated.msToDuration ms).toInt ≤ 0) :=
  GN.Props.C05.delay_conversion_never_shortens ms

/-! non-vacuity -/
example : Generated.panicSites.length > 50 := by decide +kernel
example : Generated.getOffsetArgument_guard 4#64 3#64 8#64 = true := by decide +kernel

end GN.Props.C09
