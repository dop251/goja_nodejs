import GN.Require.JsonWrap

/-! # C16 — a .json module is data: the wrapper contains exactly one string literal whose value is the file's text -/

namespace GN.Props.C16
open GN GN.Require.Json

/-- stated for `n % 16` because that is how `uEscape` produces its digits -/
theorem hexVal_hexLower (n : Nat) : hexVal (hexLower (n % 16)) = some (n % 16) :=
  (by decide +kernel : ∀ d < 16, hexVal (hexLower d) = some d) _ (Nat.mod_lt n (by decide))

theorem lex_uEscape {n : Nat} (hn : n < 65536) (tail : List Char) :
    lexBody (uEscape n ++ tail) = (lexBody tail).map fun (v, r) => (Char.ofNat n :: v, r) := by
  -- the digits of `n = n % 16⁴` in base 16: `x % (a * 16) = x % a + a * (x / a % 16)` for `a` = 16³, 16², 16
  have : n / 4096 % 16 * 4096 + n / 256 % 16 * 256 + n / 16 % 16 * 16 + n % 16 = n := by
    conv => rhs; rw [← Nat.mod_eq_of_lt hn, Nat.mod_mul (a := 4096) (b := 16), Nat.mod_mul (a := 256) (b := 16),
      Nat.mod_mul (a := 16) (b := 16)]
    ac_rfl
  simp only [uEscape, List.cons_append, List.nil_append, lexBody, hexVal_hexLower, this]

theorem lex_plain {c : Char} (tail : List Char) (h1 : c ≠ '"') (h2 : c ≠ '\\') (h3 : c ≠ '\n') (h4 : c ≠ '\r') :
    lexBody (c :: tail) = (lexBody tail).map fun (v, r) => (c :: v, r) := by
  -- the last equation of `lexBody`: the earlier patterns begin with `"` or `\\`
  rw [lexBody.eq_5 c tail h1 (fun _ _ _ _ _ e _ => h2 e) (fun _ _ e _ => h2 e)]
  simp [h3, h4]

theorem lex_quoteChar (c : Char) (tail : List Char) :
    lexBody (quoteChar c ++ tail) = (lexBody tail).map fun (v, r) => (c :: v, r) := by
  -- `split` would re-simplify the whole chain of `if`s at every level: decide the seven short escapes first
  unfold quoteChar
  by_cases hq : c = '"'
  · subst hq; rfl
  by_cases hb : c = '\\'
  · subst hb; rfl
  by_cases h3 : c = '\x08'
  · subst h3; rfl
  by_cases h4 : c = '\x0c'
  · subst h4; rfl
  by_cases hn : c = '\n'
  · subst hn; rfl
  by_cases hr : c = '\r'
  · subst hr; rfl
  by_cases h7 : c = '\t'
  · subst h7; rfl
  rw [if_neg hq, if_neg hb, if_neg h3, if_neg h4, if_neg hn, if_neg hr, if_neg h7]
  split
  · next hesc =>
    have hlt : c.toNat < 65536 := by
      simp only [Bool.or_eq_true, decide_eq_true_eq, ← Char.toNat_inj, Char.reduceToNat] at hesc
      omega
    rw [lex_uEscape hlt]
    simp [Char.ofNat_toNat]
  · exact lex_plain tail hq hb hn hr

/-- **The encoded text is exactly one string literal whose value is the text**: lexing the encoder's output
(followed by anything) consumes exactly the encoding and yields the original code points — for every text:
quotes, back-slashes, line terminators including U+2028/U+2029, control characters, non-BMP characters,
and text crafted to terminate the literal or the wrapper (`')`, `})`, `*/`, `</script>` …). -/
theorem json_literal_exact (s rest : List Char) : lexString (jsonQuote s ++ rest) = some (s, rest) := by
  simp only [jsonQuote, List.cons_append, lexString, List.append_assoc]
  induction s with
  | nil => simp [quoteBody, lexBody]
  | cons c cs ih =>
    simp only [quoteBody, List.flatMap_cons, List.append_assoc] at ih ⊢
    rw [lex_quoteChar, ih]; rfl

/-- **The wrapper's only content-dependent token is that literal**: after the fixed prefix
`(function(…){module.exports = JSON.parse(` comes one string literal whose value is the text, and then the
fixed suffix `)⏎})` — whatever the text is. So the only thing evaluated is `JSON.parse(text)`. -/
theorem wrapper_shape (text : List Char) :
    ∃ pre, wrapper text = pre ++ jsonQuote text ++ ")\n})".toList ∧
      pre = "(function(exports,require,module,__filename,__dirname){module.exports = JSON.parse(".toList ∧
      lexString (jsonQuote text ++ ")\n})".toList) = some (text, ")\n})".toList) :=
  ⟨_, rfl, rfl, json_literal_exact text _⟩

/-- non-vacuity: text assembled from the wrapper's own delimiters -/
example : lexString (jsonQuote "\"})();x='\\\n</script>\u2028".toList ++ ")".toList) =
    some ("\"})();x='\\\n</script>\u2028".toList, ")".toList) := by decide +kernel

end GN.Props.C16
