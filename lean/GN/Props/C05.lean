import GN.EventLoop.Ledger
import GN.Generated.EventLoopKernels

/-! # C05 — timers: never early, at most once, never after being cleared -/

namespace GN.Props.C05
open GN GN.EventLoop.Ledger

/-- **At most once**: in every reachable state of the job ledger a timeout or immediate has fired at most once. -/
theorem fires_at_most_once {s : St} (h : Reach s) :
    ∀ j ∈ s.jobs, j.kind = .timeout ∨ j.kind = .immediate → j.fired ≤ 1 := timeout_fires_at_most_once h

/-- **Never after being cleared**: a job cleared (by clear*, Go-side Clear*, or Terminate) before its callback ever
began has not fired — in every reachable state, hence also after any later history (stop/start, terminate/restart). -/
theorem cleared_job_never_fires {s : St} (h : Reach s) : ∀ j ∈ s.jobs, j.cleared0 = true → j.fired = 0 :=
  cleared_never_fires h

theorem cleared_job_never_fires_later {s t : St} (hr : Reach s) (h : Steps s t) {i : Nat} {j : Job}
    (hs : s.jobs[i]? = some j) (hc : j.cleared0 = true) :
    ∃ j', t.jobs[i]? = some j' ∧ j'.cleared0 = true ∧ j'.fired = 0 := cleared_never_fires_later hr h hs hc

/-- **Delivery re-checks the flag on the loop**: a step that makes a job fire needs the job to be live -/
theorem firing_needs_a_live_job {s t : St} (h : Step s t) {i : Nat} {j j' : Job} (hs : s.jobs[i]? = some j)
    (ht : t.jobs[i]? = some j') (hf : j.fired < j'.fired) : j.cancelled = false := fire_requires_live h hs ht hf

/-- **Clearing twice / clearing a fired job is harmless**: `clear` on a cancelled job is not enabled; what is
enabled is the no-op, which changes nothing -/
theorem clear_is_idempotent (s : St) (i : Nat) (j : Job) (hj : s.jobs[i]? = some j) (hc : j.cancelled = true) :
    stepL s (.clear i) = none ∧ stepL s (.clearNoop i) = some s := by
  simp [stepL, hj, hc]

/-- **The delay arithmetic** (regenerated from `msToDuration` in eventloop.go): milliseconds to nanoseconds never
wraps — a non-negative delay never becomes shorter than asked (it saturates at MaxInt64 ns), a negative one
never becomes positive. This is the arithmetic half of "never early" (the other half is Go's timers). -/
theorem delay_conversion_never_shortens (ms : I64) :
    (0 ≤ ms.toInt → ms.toInt * 1000000 ≤ (Generated.msToDuration ms).toInt ∨
                      (Generated.msToDuration ms).toInt = 2 ^ 63 - 1) ∧
    (ms.toInt < 0 → (Generated.msToDuration ms).toInt ≤ 0) := by
  -- `maxMs` and its negative, as integers
  have hmax : (BitVec.sdiv (9223372036854775807 : I64) 1000000).toInt = 9223372036854 := by decide
  have hmin : (-BitVec.sdiv (9223372036854775807 : I64) 1000000).toInt = -9223372036854 := by decide
  unfold Generated.msToDuration
  simp only [BitVec.slt_iff_toInt_lt, hmax, hmin]
  split
  · exact ⟨fun _ => .inr (by decide), fun _ => by omega⟩
  · split
    · exact ⟨fun _ => by omega, fun _ => by decide⟩
    · -- within ±maxMs the product does not wrap
      have hk : (1000000 : I64).toInt = 1000000 := by decide
      rw [BitVec.toInt_mul, hk, Int.bmod_eq_of_le]
      · exact ⟨fun _ => .inl (Int.le_refl _), fun _ => by omega⟩
      all_goals omega

/-- non-vacuity: a cleared, unexpired timer is gone at once; an expired one is delivered dead -/
example : runLabels init [.setTimeout, .clear 0, .expire 0] = none ∧
    (runLabels init [.setTimeout, .expire 0, .clear 0, .deliverDead 0]).map (·.jobCount) = some 0 := by
  decide +kernel

end GN.Props.C05

/-! Audited with this property, its progress half (`GN/EventLoop/Progress.lean`):
`uncleared_oneshot_fires_exactly_once`, `other_steps_cannot_stop_it`,
`uncleared_oneshot_fires_within_two_own_steps`. -/
