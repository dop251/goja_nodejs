import GN.Url.Params
import GN.Url.ParamsLemmas
import GN.Url.ParamsLemmas2

/-! # C12 — URLSearchParams is the WHATWG ordered pair list and serialisation round-trips -/

namespace GN.Props.C12
open GN GN.Url

/-- **delete** (by name; by name and value; an undefined value means by name): the code's in-place compaction
loop leaves exactly the pairs the WHATWG list operation keeps, in their order — for every list. -/
theorem delete_eq_spec (sp : Params) (name : Bytes) (value : Option Bytes) :
    delete sp name value = deleteSpec sp name value := by
  unfold delete deleteSpec
  rw [deleteWith_eq_filter]
  cases value with
  | none => congr 1
  | some v => congr 1

/-- the table `escape` consults is the one in url/escape.go *now* (regenerated), and it escapes every
character the parser treats specially: `%`, `+`, `&`, `=`, `?` -/
theorem table_escapes_specials : TableOK safeParam := tableOK_generated

/-- every byte ≥ 0x80 and every byte the table marks unsafe is written as `%XX` with upper-case hex, a blank as `+` -/
theorem escape_shape (c : UInt8) :
    escByte safeParam c =
      if c = 32 then [43]
      else if c > 127 || !safeParam c then [37, upperHexDigit (c >>> 4), upperHexDigit (c &&& 15)]
      else [c] := rfl

/-- **decode ∘ encode = id** for every byte string (names and values: empty, non-ASCII, reserved characters) -/
theorem unescape_escape_id (s : Bytes) : unescape (escape safeParam s) = s :=
  unescape_escape safeParam table_escapes_specials s

/-- parser clauses: `+` is a blank, a valid `%XX` is decoded, a malformed escape is kept literally -/
theorem unescape_clauses (a b : UInt8) (rest : Bytes) :
    unescape (43 :: rest) = 32 :: unescape rest ∧
    (isHex a = true → isHex b = true → unescape (37 :: a :: b :: rest) = (unhex a <<< 4 ||| unhex b) :: unescape rest) ∧
    ((isHex a && isHex b) = false → unescape (37 :: a :: b :: rest) = 37 :: unescape (a :: b :: rest)) ∧
    unescape [37] = [37] ∧ unescape [37, a] = 37 :: unescape [a] := by
  refine ⟨unescape.eq_3 rest, unescape_pct rest, fun h => ?_, rfl, ?_⟩
  · rw [unescape, h]
    rfl
  · rw [unescape]
    · exact fun _ _ _ _ e => nomatch e
    · decide

/-- an empty query string parses to the empty list; empty pairs are skipped; one leading `?` is dropped -/
theorem parse_clauses :
    parse [] = [] ∧ parse [38, 38] = [] ∧ parse [63, 97, 61, 49] = [⟨[97], [49]⟩] ∧
    parse [63, 63, 97] = [⟨[63, 97], []⟩] := by decide +kernel

/-- **getters** are the list operations -/
theorem getters (sp : Params) (k : Bytes) :
    get sp k = (sp.find? (·.name == k)).map (·.value) ∧
    getAll sp k = (sp.filter (·.name == k)).map (·.value) ∧
    has sp k none = sp.any (·.name == k) := ⟨rfl, rfl, rfl⟩

/-- **live iterators**: `next` yields the element at the iterator's index in the list as it is at that moment,
so pairs appended or removed after the iterator was created are seen / not seen accordingly -/
theorem iter_live (sp : Params) (idx : Nat) :
    (idx < sp.length → iterNext sp idx = (sp[idx]?, idx + 1)) ∧
    (sp.length ≤ idx → iterNext sp idx = (none, idx)) := by
  constructor
  · intro h; simp [iterNext, List.getElem?_eq_getElem h]
  · intro h; simp [iterNext, List.getElem?_eq_none h]

/-- **set**: the code's loop (found flag, in-place write, Go's range-copy semantics) is the WHATWG `set`:
the first pair with the name gets the value in place, later ones are removed, appended if there is none. -/
theorem set_eq_spec (sp : Params) (name value : Bytes) : set sp name value = setSpec sp name value :=
  by simpa [Url.set] using setLoop_false_spec name value sp 0 0 false rfl rfl (Nat.zero_le _)

/-- **sort** is sorted by name, a permutation, and stable (pairs with equal names keep their order) -/
theorem sort_spec (sp : Params) :
    SortedByName (sort sp) ∧ (sort sp).Perm sp ∧
    ∀ n : Bytes, (sort sp).filter (·.name == n) = sp.filter (·.name == n) :=
  have ⟨h1, h2, h3⟩ := foldl_insertSorted sp List.Pairwise.nil
  ⟨sortedByName_of_pairwise h1, by simpa [Url.sort] using h2, by simpa [Url.sort] using h3⟩

/-- **toString then parse is the identity** on every list of pairs of byte strings (empty, non-ASCII, `+`, `%`,
`&`, `=`, `?` included) — stated about the escape table as it is in url/escape.go now. -/
theorem parse_serialize_id (l : Params) : parse (serialize l) = l :=
  by rw [parse_eq_parseBody (serialize_head l), parseBody_serialize_id]

/-- **the hex kernels are the source's**: `ishex` and `unhex` as regenerated from url/escape.go on this run (the
tagless switches translated to `UInt8` functions by verif-extract) agree with the model's on every byte, so
`unescape_clauses`, `unescape_escape_id` and `parse_serialize_id` speak about the digits the code accepts now. -/
theorem hex_kernels_as_in_source (c : UInt8) : Generated.ishex c = isHex c ∧ Generated.unhex c = unhex c := by
  revert c; decide +kernel

/-- **the order `sort` uses is the URL standard's**: names are compared as sequences of UTF-16 code units, so a
character beyond U+FFFF (lead surrogate D800..DBFF) sorts before U+E000..U+FFFF although its code point is larger -/
theorem sort_order_is_code_units :
    ltName [0xF0, 0x90, 0x80, 0x80] [0xEF, 0xBF, 0xBF] = true ∧ ltBytes [0xF0, 0x90, 0x80, 0x80] [0xEF, 0xBF, 0xBF] = false ∧
    u16key [0xF0, 0x9F, 0x98, 0x80] = [0xD83D, 0xDE00] := by decide +kernel

/-- non-vacuity: a list with duplicates, empty and reserved names -/
example : delete [⟨[97], [49]⟩, ⟨[], [43]⟩, ⟨[97], [50]⟩] [97] (some [49]) = [⟨[], [43]⟩, ⟨[97], [50]⟩] ∧
    serialize [⟨[97, 43], [38, 61]⟩] = "a%2B=%26%3D".toUTF8.toList := by decide +kernel

end GN.Props.C12
