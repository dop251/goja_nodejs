import GN.EventLoop.Queue

/-!
# C04 — RunOnLoop: accepted functions run exactly once, in order, never left waiting

Theorems about every reachable state of the abstract transition system `GN.EventLoop.Queue` (all interleavings of
any number of submitters with the loop's drain/select cycle, Stop/StopNoWait/Start/Terminate). The recorded
traces of the real loop (controlled schedules, `-tags verif`) are mapped to labels of this system and replayed
through `stepQ` by the driver on every run; `stepQ_sound`/`runLabels_reach` show that whatever the driver
accepts is a path of the system, so these invariants hold in every state the real loop was observed in.
-/

namespace GN.Props.C04
open GN.EventLoop.Queue

/-- **Exactly once, in acceptance order** (per caller and across callers: the linearisation point of an accepted
call is its append under the lock, which lies inside the call): in every reachable state
`accepted = executed ++ batch ++ queue`. -/
theorem accepted_is_executed_then_batch_then_queue {s : St} (h : Reach s) :
    s.accepted = s.executed ++ s.batch ++ s.aux := h.invFifo

theorem executed_is_a_prefix_of_accepted {s : St} (h : Reach s) : s.executed <+: s.accepted := executed_prefix h

/-- **A function for which RunOnLoop returned false is never executed.** -/
theorem refused_is_never_executed {s : St} (h : Reach s) : ∀ f ∈ s.refused, f ∉ s.executed := refused_never_executed h

/-- **Never left waiting (safety form).** If the loop is parked at its select while a function is queued, then a
wake-up token is in the channel or a submitter still owes its token send — no further submission is needed.
(That the loop then actually takes the wake arm needs fairness of Go's `select`, which is outside the model.) -/
theorem no_lost_wakeup_at_select {s : St} (h : Reach s) (hsel : s.lpc = .sel) (hq : s.aux ≠ []) :
    s.token = true ∨ 0 < s.pend := no_lost_wakeup h hsel hq

/-- **Terminate drains the queue**: once Terminate has set the flag and finished its drain, every accepted
function has been executed, in order. -/
theorem terminate_drains_queue {s : St} (h : Reach s) (ht : s.terminated = true) (hl : s.lpc = .idle) :
    s.executed = s.accepted := terminate_drains h ht hl

/-- Stop/Start keep the queue: no step of the controller changes `batch ++ queue` or what was executed. -/
theorem controller_steps_keep_queue (s : St) :
    (∀ t, stepQ s .stopStore = some t → t.aux = s.aux ∧ t.batch = s.batch ∧ t.executed = s.executed) ∧
    (∀ t, stepQ s .stopWake = some t → t.aux = s.aux ∧ t.batch = s.batch ∧ t.executed = s.executed) ∧
    (∀ t, stepQ s .snwStore = some t → t.aux = s.aux ∧ t.batch = s.batch ∧ t.executed = s.executed) ∧
    (∀ t, stepQ s .start = some t → t.aux = s.aux ∧ t.batch = s.batch ∧ t.executed = s.executed) ∧
    (∀ t, stepQ s .exit = some t → t.aux = s.aux ∧ t.batch = s.batch ∧ t.executed = s.executed) := by
  refine ⟨?_, ?_, ?_, ?_, ?_⟩
  all_goals
    intro t h
    obtain ⟨-, rfl⟩ := stepQ_eq_some h
    exact ⟨rfl, rfl, rfl⟩

/-- what the driver replays is a path of the transition system -/
theorem replay_is_sound (s t : St) (ls : List Lbl) (hs : Reach s) (h : runLabels s ls = some t) : Reach t :=
  runLabels_reach s t ls hs h

/-- non-vacuity: two submissions racing with a start, a wake-up and a drain -/
example : ∃ t, runLabels init [.enqueue 1, .start, .enqueue 2, .wake, .swap, .execOne, .wake, .execOne, .execDone] = some t ∧
    t.executed = [1, 2] ∧ t.token = true := by decide

end GN.Props.C04

/-! Audited with this property, its progress half (`GN/EventLoop/Progress.lean`):
`accepted_function_is_executed_by_loop_alone`, `loop_enabled_for_pending_function`,
`loop_step_enabled_for_pending_function`. -/
