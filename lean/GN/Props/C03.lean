import GN.EventLoop.Queue

/-! # C03 — callbacks never overlap and never start while the loop is stopped -/

namespace GN.Props.C03
open GN.EventLoop.Queue

/-- **One executor.** The system has a single program counter for "whoever executes loop work": the loop goroutine
between `run.enter` and its exit, or the controller inside Terminate's drain — and that executor exists exactly
while `running` is set or Terminate drains: `lpc ∈ {idle, tswap, texec} ↔ running = false`. -/
theorem executor_exists_iff_running {s : St} (h : Reach s) :
    (s.lpc = .idle ∨ s.lpc = .tswap ∨ s.lpc = .texec) ↔ s.running = false := h.invStop.stopped_iff

/-- **Nothing starts while the loop is stopped**: a step that executes a function is taken by the running loop
or by Terminate's drain, never in a stopped, non-terminating state. -/
theorem executes_only_while_running_or_in_terminate {s t : St} (hr : Reach s) (h : Step s t)
    (hx : t.executed ≠ s.executed) : s.running = true ∨ s.lpc = .texec :=
  executes_only_running_or_terminate hr h hx

/-- a function submitted while the loop is stopped is queued, not run: the enqueue step leaves `executed` alone -/
theorem submission_while_stopped_only_queues (s t : St) (f : Nat) (h : stepQ s (.enqueue f) = some t) :
    t.executed = s.executed ∧ t.aux = s.aux ++ [f] := by
  obtain ⟨-, rfl⟩ := stepQ_eq_some h
  exact ⟨rfl, rfl⟩

/-- a second start while running is impossible (setRunning panics): the start step needs `running = false` -/
theorem no_double_start (s : St) (h : s.running = true) : stepQ s .start = none := by
  simp [stepQ, h]

/-- while Stop has not returned control to a new start, the batch is empty unless somebody is executing it -/
theorem batch_only_while_executing {s : St} (h : Reach s) (hb : s.batch ≠ []) :
    (∃ k, s.lpc = .exec k) ∨ s.lpc = .texec := h.invBatch hb

example : stepQ init .execOne = none ∧ stepQ init .termExecOne = none := by decide

end GN.Props.C03

/-! Audited with this property, on the coupled system (`GN/EventLoop/Combined.lean`):
`job_callback_excludes_runAux`, `delivery_and_exec_never_both_enabled`, `delivery_only_at_select_or_in_drain`,
`reach_queue`, `reach_ledger`. -/
