import GN.Url.PathSpec
import GN.Url.PathLemmas

/-! # C14 — new URL(reference, base) denotes the URL RFC 3986 §5.2 / WHATWG resolution prescribes

Three layers, tied together as follows.
* `GN.Url.Rfc` (Rfc3986.lean): the specification — Appendix B splitting, §5.2.2 transform, §5.2.3 merge, §5.2.4
  remove_dot_segments written from the RFC text, and the WHATWG refinements.  The driver evaluates it on every generated
  (reference, base) pair of the grammar and compares it, component by component, with what the real constructor returns.
* `GN.Url.Net` + `GN.Url.Obj`: a transcription of the code path (`url.Parse`, `ResolveReference`/`resolvePath`, `path.Clean`,
  url.go's `cleanPath`, `normalizeURL`); the driver compares *every getter* of the real object with it on every case.
* The theorems below relate the two for every path of the grammar, every base and every reference — with no bound on
  the number or length of segments: the code's three path algorithms all compute §5.2.4 / §5.2.3+§5.2.4. -/

namespace GN.Props.C14
open GN GN.Url GN.Url.Net GN.Url.Rfc

/-- §5.2.4 (the RFC's buffer algorithm) computes the reference normaliser on segments -/
theorem remove_dot_segments_is_the_normaliser : RemoveDotsIsNorm := by
  intro segs hok
  obtain ⟨init, l, rfl, hi, hl⟩ := segsOK_split hok
  rw [render_normSegs, cleanStack_inner hi, render_eq_rend (by simp)]
  exact loop_rend hl hi good_nil _ (Nat.lt_succ_of_le (rend_length_ge _))

/-- **dot segments removed**: no `.` or `..` segment is left, for every path of the grammar -/
theorem no_dot_segments_left : NoDotSegmentsLeft := by
  intro segs hok s hs
  obtain ⟨st, l, e, hg, -, hl⟩ := normSegs_nf hok.2.1
  rw [e] at hs
  rcases List.mem_append.1 hs with hs | hs
  · exact isDot_false_iff.2 (hg s hs).2.2
  · rw [List.mem_singleton.1 hs]; exact hl

/-- **a trailing slash is preserved** (and a path ending in `/.` or `/..` gets one) -/
theorem trailing_slash_kept : TrailingSlashKept := by
  intro segs hok
  rw [normSegs_dir_iff hok.1]
  obtain ⟨init, l, rfl, hi, hl⟩ := segsOK_split hok
  simp only [List.getLast?_concat, Option.some.injEq]
  refine ⟨Or.imp_right (Or.imp_right Or.inl), fun h => ?_⟩
  -- the fourth case, an empty stack, cannot come after an ordinary last segment
  by_cases hd : (l == [] || isDot l) = true
  · exact dir_iff.1 hd
  · obtain ⟨h0, h1, h2⟩ := not_dir hd
    simp [h0, h1, h2, List.filter_append, normStep_other h1 h2] at h

/-- normalisation is idempotent: the normalisation pass after resolution cannot change a resolved path -/
theorem normalisation_idempotent : NormIdempotent := fun _ hok => (normSegs_nf hok.2.1).fixed

/-- url.go's `cleanPath` (`path.Clean` + the trailing-slash repair) is §5.2.4 on every absolute path, any scheme -/
theorem cleanPath_is_rfc : CleanPathIsRfc := fun segs proto hok => by
  rw [cleanPath_norm hok.1 hok.2.1, remove_dot_segments_is_the_normaliser segs hok]

/-- the element loop of `resolvePath` and §5.2.4 agree on every path of the grammar -/
theorem resolveFull_removeDots {segs : List Bytes} (hok : SegsOK segs) :
    resolveFull (render segs) = removeDotSegments (render segs) := by
  rw [resolveFull_norm hok, remove_dot_segments_is_the_normaliser segs hok]

/-- **a relative reference path is merged with the base path (§5.2.3) and cleaned (§5.2.4)** — what the code
computes through net/url's `resolvePath` is exactly that, for every base and reference -/
theorem relative_path_resolution_is_rfc : GoResolveRelativeIsRfc := by
  intro base ref hb hr hne
  have h := renderRel_head hr hne
  obtain ⟨bi, bl, rfl, hbi, hbl⟩ := segsOK_split hb
  rw [resolvePath_rel (render_ne_nil _) h.1 h.2, merge_render hbl hr.1]
  exact resolveFull_removeDots (segsOK_append hbi hr)

/-- an absolute reference path replaces the base path -/
theorem absolute_path_resolution_is_rfc : GoResolveAbsoluteIsRfc := fun _ _ _ hok =>
  resolvePath_abs.trans (resolveFull_removeDots hok)

/-- an empty reference path keeps the base path -/
theorem empty_path_keeps_base : GoResolveEmptyIsBase := fun _ hok =>
  resolvePath_empty.trans (resolveFull_removeDots hok)

/-- **the same choice of scheme, authority, path and query as §5.2.2** for a reference without a scheme -/
theorem component_choice_is_rfc : ResolveChoice := by
  intro b r hb hs ho t
  refine ⟨(resolveReference_rel hs rfl).1, ?_⟩
  have ht : t = resolveReference b r := rfl
  rw [resolveReference, if_pos (show (r.scheme == []) = true by rw [hs]; rfl)] at ht
  by_cases hauth : (r.scheme != [] || r.host != [] || r.user.isSome) = true
  · rw [if_pos hauth] at ht
    have hf := setPath_getD_fields ht
    have hn : ∀ {q : Prop}, r.host = [] → r.user = none → q := fun h1 h2 => by
      rw [hs, h1, h2] at hauth; cases hauth
    exact ⟨fun _ => hf, hn, hn, hn, hn⟩
  · rw [if_neg hauth, if_neg (by rw [ho]; decide)] at ht
    dsimp only at ht
    rw [if_neg (by rw [hb]; simp)] at ht
    obtain ⟨w, ht, hwh, hwu, hwq⟩ : ∃ w, t = (setPath w (resolvePath b.escapedPath r.escapedPath)).getD w ∧
        w.host = b.host ∧ w.user = b.user ∧
        w.rawQuery = if (r.path == [] && !r.forceQuery && r.rawQuery == []) = true then b.rawQuery else r.rawQuery :=
      ⟨_, ht, rfl, rfl, by simp only [apply_ite URL.rawQuery, ite_self]⟩
    have hf := setPath_getD_fields ht
    have hna : ¬(r.host ≠ [] ∨ r.user.isSome = true) := by simpa [hs] using hauth
    refine ⟨fun h => absurd h hna, fun _ _ => ⟨hf.1.trans hwh, hf.2.1.trans hwu⟩, fun _ _ hp hfq hrq => ?_,
      fun _ _ hne => ?_, fun _ _ _ => setPath_getD_path ht⟩
    · rw [hf.2.2, hwq, if_pos (by simp [hp, hfq, hrq])]
    · rw [hf.2.2, hwq, if_neg]
      simp only [Bool.and_eq_true, beq_iff_eq, Bool.not_eq_true']
      rintro ⟨⟨h1, h2⟩, h3⟩
      rcases hne with h | h | h
      · exact h h1
      · rw [h2] at h; cases h
      · exact h h3

/-- **`new URL(s)` rejects strings that have no scheme; the scheme of every result is lower case** -/
theorem scheme_required_and_lower_case : SchemeRequiredAndLower := fun _ _ _ h => built_scheme (Obj.construct_built h)

/-- **the fragment is the reference's**, never inherited from the base -/
theorem fragment_is_the_references : FragmentIsReferences := by
  intro s b u ref h href hrs
  unfold Obj.construct at h
  simp only [bind, Except.bind, href] at h
  split at h
  · simp at h
  · have hra : ref.isAbs = false := by simp [URL.isAbs, hrs]
    simp only [hra, Bool.false_eq_true, if_false] at h
    exact (normalizeURL_fields h).2

/-! non-vacuity: the RFC's own example base and a reference of each kind satisfy the hypotheses -/
example : SegsOK [[98], [99], [100, 59, 112]] ∧ SegsOK [[46, 46], [103]] := by
  refine ⟨⟨by decide, ?_, ?_⟩, ⟨by decide, ?_, ?_⟩⟩ <;> decide
example : removeDotSegments (merge true (render [[98], [99], [100, 59, 112]]) (renderRel [[46, 46], [103]])) = render [[98], [103]] := by
  decide +kernel

end GN.Props.C14
