import GN.Buffer.Codec
import GN.Buffer.CodecLemmas

/-! # C11 — Buffer codecs: lossless round trips, lenient decoding, clamped ranges, whole-character writes -/

namespace GN.Props.C11
open GN GN.Buffer.Codec

/-- hex: `Buffer.from(b.toString('hex'), 'hex')` has the bytes of `b`, for every byte sequence -/
theorem hex_roundtrip (b : Bytes) : hexDec (hexEnc b) = b := GN.Buffer.Codec.hex_roundtrip b

/-- base64 (padded, standard alphabet): `Buffer.from(b.toString('base64'), 'base64')` has the bytes of `b` -/
theorem base64_roundtrip (b : Bytes) : b64Dec (b64Enc b) = b := b64_roundtrip_with isAlphabet_std _ b

/-- base64url (unpadded, URL alphabet) is decoded by the *same* lenient decoder: both alphabets are accepted -/
theorem base64url_roundtrip (b : Bytes) : b64Dec (b64UrlEnc b) = b := b64_roundtrip_with isAlphabet_url _ b

/-- line breaks inside base64 text are skipped -/
theorem base64_skips_line_breaks (post : Bytes) (c : UInt8) (q : List UInt8) (h : isNL c = true) :
    b64DecGo (c :: post) q = b64DecGo post q := by
  have hs : sextet? c = none := by
    simp only [isNL, Bool.or_eq_true, decide_eq_true_eq] at h
    rcases h with h | h <;> subst h <;> decide
  simp [b64DecGo, hs, h]

/-- the hypothesis of `utf8_roundtrip` is exactly "is the UTF-8 encoding of some list of scalar values" -/
theorem utf8_wellformed_iff (b : Bytes) :
    validUtf8 b = true ↔ ∃ cs : List Char, b = (String.ofList cs).toUTF8.toList := by
  unfold validUtf8 String.fromUTF8?
  constructor
  · intro h
    split at h
    · next hv =>
      obtain ⟨m, hm⟩ := hv
      refine ⟨m, ?_⟩
      rw [utf8_bytes]
      have := congrArg (fun x => x.data.toList) hm
      simpa [List.utf8Encode] using this
    · simp at h
  · rintro ⟨cs, rfl⟩
    have hv : (ByteArray.mk (String.ofList cs).toUTF8.toList.toArray).IsValidUTF8 := by
      refine ⟨cs, ?_⟩
      apply ByteArray.ext
      simp [byteArray_toList]
    rw [dif_pos hv]
    rfl

/-- utf8: for every well-formed byte sequence, `Buffer.from(b.toString('utf8'), 'utf8')` has the bytes of `b` -/
theorem utf8_roundtrip (b : Bytes) (h : validUtf8 b = true) : decode .utf8 (encode .utf8 b) = b := by
  obtain ⟨cs, rfl⟩ := (utf8_wellformed_iff b).1 h
  exact GN.Buffer.Codec.utf8_reencode cs

/-- scalar values pass through a JS string (UTF-16 code units, surrogate pairs above U+FFFF) without loss -/
theorem utf16_roundtrip (cs : List Char) : utf16ToScalars (scalarsToUtf16 cs) = cs := GN.Buffer.Codec.utf16_roundtrip cs

/-- `toString(enc, start, end)` is the encoding of the clamped sub-range, for every start and end
(negative, reversed, huge) -/
theorem toString_range (e : Enc) (b : Bytes) (start stop : Int) :
    toStringRange e b start stop =
      let s := max start 0
      let t := min stop b.length
      if s ≥ b.length ∨ stop < 0 ∨ s ≥ stop then [] else encode e ((b.drop s.toNat).take (t - s).toNat) := by
  have hs : (if start < 0 then 0 else start) = max start 0 := by
    split <;> omega
  have ht : (if stop > b.length then (b.length : Int) else stop) = min stop b.length := by
    split <;> omega
  simp only [toStringRange, hs, ht, Bool.or_eq_true, decide_eq_true_eq]
  by_cases h1 : max start 0 ≥ (b.length : Int)
  · simp [h1]
  · simp [h1]

/-- the sub-range that `toString(enc, start, end)` encodes (`toString_range`) lies inside the buffer -/
theorem toString_range_in_bounds (b : Bytes) (start stop : Int)
    (h : ¬ (max start 0 ≥ b.length ∨ stop < 0 ∨ max start 0 ≥ stop)) :
    (max start 0).toNat + (min stop b.length - max start 0).toNat ≤ b.length := by
  omega

/-- `buf.write(str, offset, length, enc)`: writes a prefix of what `Buffer.from(str, enc)` would hold, never more than
fits or than asked, and leaves every other byte alone -/
theorem write_is_prefix_of_decode (e : Enc) (buf : Bytes) (s : List UInt16) (offset length : Nat)
    (ho : offset ≤ buf.length) :
    let r := write e buf s offset length
    r.1 ≤ buf.length - offset ∧ r.1 ≤ length ∧ r.2.length = buf.length ∧
    (r.2.drop offset).take r.1 = (decode e s).take r.1 ∧
    r.2.take offset = buf.take offset ∧ r.2.drop (offset + r.1) = buf.drop (offset + r.1) := by
  intro r
  generalize hraw : decode e s = raw
  generalize hlen : (if length > buf.length - offset then buf.length - offset else length) = len
  have hlen1 : len ≤ buf.length - offset ∧ len ≤ length := by subst hlen; split <;> omega
  generalize hn : (if raw.length ≤ len then raw.length else if e == .utf8 then trimToBoundary raw len else len) = n
  have hn1 : n ≤ len ∧ n ≤ raw.length := by
    have := trimToBoundary_le raw len
    subst hn
    split
    · omega
    · split <;> omega
  have hr : r = (n, buf.take offset ++ raw.take n ++ buf.drop (offset + n)) := by
    simp only [r, write, hraw, hlen, hn]
  rw [hr]
  have htl : (buf.take offset).length = offset := List.length_take_of_le ho
  have hrl : (raw.take n).length = n := List.length_take_of_le hn1.2
  refine ⟨by omega, by omega, ?_, ?_, ?_, ?_⟩
  · rw [List.length_append, List.length_append, htl, hrl, List.length_drop]; omega
  · rw [List.append_assoc, List.drop_left' htl, List.take_left' hrl]
  · rw [List.append_assoc, List.take_left' htl]
  · rw [List.drop_left' (by rw [List.length_append, htl, hrl])]

/-- the cut `write` chooses is a character boundary of any well-formed text -/
theorem trim_is_char_boundary (cs : List Char) (n : Nat) :
    ∃ k, ((String.ofList cs).toUTF8.toList).take (trimToBoundary (String.ofList cs).toUTF8.toList n) =
      (String.ofList (cs.take k)).toUTF8.toList := by
  simp only [utf8_bytes]
  by_cases hn : (cs.flatMap String.utf8EncodeChar).length ≤ n
  · exact ⟨cs.length, by rw [trimToBoundary_ge hn, List.take_length, List.take_length]⟩
  · rw [trimToBoundary_lt (Nat.lt_of_not_le hn)]
    exact back_flatMap cs n (Nat.lt_of_not_le hn)

/-- a utf8 write stores whole characters only: what is written is the encoding of a prefix of the string's characters -/
theorem write_whole_characters (buf : Bytes) (s : List UInt16) (offset length : Nat) :
    ∃ k, (decode .utf8 s).take (write .utf8 buf s offset length).1 =
      (String.ofList ((utf16ToScalars s).take k)).toUTF8.toList := by
  simp only [write, decode, utf8OfJs, beq_self_eq_true, if_true]
  generalize (if length > buf.length - offset then buf.length - offset else length) = len
  split
  · exact ⟨(utf16ToScalars s).length, by rw [List.take_length, List.take_length]⟩
  · exact trim_is_char_boundary _ _

/-- `Buffer.alloc(size, fill, enc)`: the decoded pattern repeated; an empty or undecodable pattern gives zeros -/
theorem fill_repeats_pattern (e : Enc) (size : Nat) (s : List UInt16) :
    (fill e size s).length = size ∧
    ∀ i, i < size → (fill e size s)[i]? =
      some (if (decode e s).isEmpty then 0 else (decode e s).getD (i % (decode e s).length) 0) :=
  GN.Buffer.Codec.fill_spec e size s

/-- `Buffer.from(arrayLike)` stores each element modulo 256 -/
theorem from_array_like_mod_256 (vals : List Int) (i : Nat) (v : Int) (h : vals[i]? = some v) :
    ((fromArrayLike vals)[i]?).map (·.toNat) = some (v % 256).toNat := by
  simp only [fromArrayLike, List.getElem?_map, h, Option.map_some, UInt8.toNat_ofNat']
  congr 1
  omega

/-! non-vacuity: concrete instances of the hypotheses -/
example : validUtf8 [0xE2, 0x82, 0xAC, 0x41] = true := by decide +kernel
example : hexDec (hexEnc [0, 255, 16]) = [0, 255, 16] := by decide +kernel
example : ¬ (max (-3 : Int) 0 ≥ ([1,2,3] : Bytes).length ∨ (2:Int) < 0 ∨ max (-3 : Int) 0 ≥ 2) := by decide

end GN.Props.C11
