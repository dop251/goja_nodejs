import GN.EventLoop.JsOrderLemmas
import GN.EventLoop.Queue

/-! # C18 — callback order seen by JS: microtasks first, immediates FIFO, throws isolated -/

namespace GN.Props.C18
open GN.EventLoop.JsOrder

/-- **The model satisfies the partial order**: for every program and every fuel that did not cut a drain loop short,
the log produced by the exact semantics (synchronous block to its end; promise reactions drained FIFO, transitively,
when the outermost call returns; immediates through the FIFO aux queue, cleared ones skipped; a throw ends only
its own body) is accepted by the program-independent oracle: no callback begins before the current block has
ended, no immediate begins while reactions are pending, immediates begin in request order, a cleared callback
never runs, nothing runs twice, and at the end everything scheduled and not cleared has run. -/
theorem model_meets_partial_order (p : Prog) (fuel : Nat) (hc : Complete p fuel) :
    oracle (runProgram p fuel) = .ok () :=
  have ⟨_, h⟩ := inv_drainImm (inv_drainMicro p fuel (inv_init p)) hc.1 hc.2
  inv_final h hc.weak.1 hc.weak.2

/-- the completeness condition is about fuel only: more fuel changes nothing -/
theorem more_fuel_same_log (p : Prog) (fuel n : Nat) (hc : Complete p fuel) :
    Complete p (fuel + n) ∧ runProgram p (fuel + n) = runProgram p fuel := by
  have hm := drainMicro_more_fuel n hc.1
  have hi := drainImm_more_fuel n hc.2
  exact ⟨⟨hm ▸ hc.1, hm ▸ hi.2⟩, by simp only [runProgram, hm, hi.1]⟩

/-- **Immediates are FIFO in the loop itself** (the aux queue): what has been executed is a prefix of what was
accepted — all interleavings (see C04) -/
theorem immediates_fifo_in_the_queue {s : GN.EventLoop.Queue.St} (h : GN.EventLoop.Queue.Reach s) :
    s.executed <+: s.accepted := GN.EventLoop.Queue.executed_prefix h

/-- **A throwing callback does not prevent later callbacks**: in the model a `throw` ends the body and the
instance still ends; the queues are untouched -/
theorem throw_ends_only_its_body (p : Prog) (me : Nat) (rest : List Act) (s : St) :
    runBody p me (.throw :: rest) s = s.emit (.x me) := rfl

/-- non-vacuity: a program whose run is complete (a reaction queued by an immediate, a throw, two immediates) -/
example : completeB [[.imm 1 0, .imm 2 1, .thenDo 3], [.thenDo 3, .throw], [.log], [.log]] 100 = true := by decide +kernel

example : oracle (runProgram [[.imm 1 0, .imm 2 1, .thenDo 3], [.thenDo 3, .throw], [.log], [.log]] 100) = .ok () :=
  model_meets_partial_order _ _ (by decide +kernel)

end GN.Props.C18
