import GN.EventLoop.Queue
import GN.EventLoop.Ledger

/-! # C08 — Terminate() leaves nothing behind, refuses work until restart, allows restart
(the queue half over the model `GN.EventLoop.Queue`, the goroutine/timer half over `GN.EventLoop.Ledger`) -/

namespace GN.Props.C08
open GN.EventLoop.Queue

/-- **Refuse until restart**: while the terminated flag is set every submission is refused (not queued) … -/
theorem refused_while_terminated (s : St) (f : Nat) (h : s.terminated = true) : stepQ s (.enqueue f) = none := by
  simp [stepQ, h]

/-- … the flag stays set until the next start, which clears it … -/
theorem terminated_until_start (s t : St) (l : Lbl) (h : stepQ s l = some t) (ht : s.terminated = true) (hl : l ≠ .start) :
    t.terminated = true := by
  rw [stepQ_terminated h]
  cases l
  case start => exact absurd rfl hl
  case termFlag => rfl
  all_goals exact ht

theorem start_clears_terminated (s t : St) (h : stepQ s .start = some t) : t.terminated = false ∧ t.running = true := by
  obtain ⟨-, rfl⟩ := stepQ_eq_some h
  exact ⟨rfl, rfl⟩

/-- … and in every reachable state: terminated ⇒ not running, and (after Terminate's swap) the queue is empty -/
theorem terminated_state {s : St} (h : Reach s) (ht : s.terminated = true) :
    s.running = false ∧ (s.lpc = .tswap ∨ s.aux = []) := h.invTerm.terminated ht

/-- **Terminate drains**: everything accepted before the flag was set has run when Terminate is done -/
theorem terminate_has_run_everything {s : St} (h : Reach s) (ht : s.terminated = true) (hl : s.lpc = .idle) :
    s.executed = s.accepted := terminate_drains h ht hl

/-- **Fresh after restart**: after Terminate, a start yields a running loop with an empty queue and batch -/
theorem fresh_after_restart {s t : St} (h : Reach s) (ht : s.terminated = true) (hl : s.lpc = .idle)
    (hs : stepQ s .start = some t) : t.aux = [] ∧ t.batch = [] ∧ t.terminated = false := by
  obtain ⟨ha, hb⟩ := drained h ht hl
  obtain ⟨-, rfl⟩ := stepQ_eq_some hs
  exact ⟨ha, hb, rfl⟩

/-- **Nothing is left behind** (job ledger): the registry holds exactly the jobs whose goroutine / runtime timer
has not finished, so once Terminate's drain has seen every goroutine finish (each interval goroutine ends by
sending its own removal) and has cancelled every job, no job is registered and the live-job count is 0. -/
theorem registry_is_exactly_unfinished_goroutines {s : GN.EventLoop.Ledger.St} (h : GN.EventLoop.Ledger.Reach s) :
    ∀ j ∈ s.jobs,
      (j.kind = .timeout → (j.inJobs = true ↔ j.g = .armed ∨ j.g = .sending)) ∧
      (j.kind = .interval → (j.inJobs = true ↔ j.g = .iwait ∨ j.g = .itick ∨ j.g = .iremove)) ∧
      (j.kind = .immediate → j.inJobs = false) := GN.EventLoop.Ledger.registry_matches_goroutines h

/-- **Cancelled work stays silent, also after a restart**: a job Terminate cancelled before its callback ever began
never fires in any later state -/
theorem cancelled_work_stays_silent {s t : GN.EventLoop.Ledger.St} (hr : GN.EventLoop.Ledger.Reach s)
    (h : GN.EventLoop.Ledger.Steps s t) {i : Nat} {j : GN.EventLoop.Ledger.Job}
    (hs : s.jobs[i]? = some j) (hc : j.cleared0 = true) :
    ∃ j', t.jobs[i]? = some j' ∧ j'.cleared0 = true ∧ j'.fired = 0 :=
  GN.EventLoop.Ledger.cleared_never_fires_later hr h hs hc

example : ∃ t, runLabels init [.enqueue 7, .wake, .termFlag, .refuse 8, .termSwap, .termExecOne, .termExecDone, .start] = some t ∧
    t.executed = [7] ∧ t.refused = [8] ∧ t.terminated = false := by decide

end GN.Props.C08

/-! Audited with this property, on the coupled system (`GN/EventLoop/Combined.lean`):
`drain_runs_no_callback`, `terminated_flags_agree`. -/
