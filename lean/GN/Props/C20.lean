import GN.Process.Env

/-! # C20 — process.env is a faithful snapshot of the host environment, private per runtime -/

namespace GN.Props.C20
open GN GN.Process

/-- **Split at the first `=` only**: a name without `=`, an `=` and *any* value (empty, with several `=`, any bytes)
split into that name and that value -/
theorem split_first_eq (k v : Bytes) (hk : (61 : UInt8) ∉ k) : splitEnv (k ++ 61 :: v) = some (k, v) := by
  induction k with
  | nil => simp [splitEnv]
  | cons c cs ih =>
    have hc : c ≠ 61 := fun h => hk (by simp [h])
    have := ih (fun h => hk (by simp [h]))
    simp [splitEnv, hc, this]

/-- an entry without `=` is not a variable (and must not crash the loader) -/
theorem split_none_iff (e : Bytes) : splitEnv e = none ↔ (61 : UInt8) ∉ e := by
  induction e with
  | nil => simp [splitEnv]
  | cons c cs ih =>
    rw [splitEnv]
    by_cases hc : c = 61
    · simp [hc]
    · rw [if_neg hc, List.mem_cons, not_or, ← ih]
      cases splitEnv cs <;> simp [Ne.symm hc]

theorem lookup_erase (m : EnvMap) (k k' : Bytes) : lookup (erase m k) k' = if k = k' then none else lookup m k' := by
  induction m with
  | nil => simp [erase, lookup]
  | cons p m ih =>
    obtain ⟨a, b⟩ := p
    unfold erase at ih ⊢
    by_cases ha : a = k
    · subst ha
      rw [List.filter_cons_of_neg (by simp), ih, lookup]
      split <;> rfl
    · rw [List.filter_cons_of_pos (by simpa using ha), lookup, ih, lookup]
      by_cases hk : k = k'
      · subst hk; simp [ha]
      · simp [hk]

theorem lookup_erase_self (m : EnvMap) (k : Bytes) : lookup (erase m k) k = none := by
  rw [lookup_erase, if_pos rfl]

theorem lookup_put (m : EnvMap) (k v k' : Bytes) :
    lookup (put m k v) k' = if k = k' then some v else lookup m k' := by
  rw [put, lookup, lookup_erase]
  split <;> rfl

/-- every name occurs once in the map (Go map) -/
def Distinct (m : EnvMap) : Prop := (m.map (·.1)).Nodup

theorem erase_distinct {m : EnvMap} (k : Bytes) (h : Distinct m) : Distinct (erase m k) := by
  unfold Distinct erase at *
  exact List.Nodup.sublist (List.Sublist.map _ List.filter_sublist) h

theorem not_mem_erase (m : EnvMap) (k : Bytes) : k ∉ (erase m k).map (·.1) := by
  simp [erase]

theorem put_distinct {m : EnvMap} (k v : Bytes) (h : Distinct m) : Distinct (put m k v) := by
  unfold Distinct put
  simp only [List.map_cons, List.nodup_cons]
  exact ⟨not_mem_erase m k, erase_distinct k h⟩

/-- **Snapshot is exact**: for every host environment, the value JavaScript sees under a name is the value
of that variable in the host environment, and names that are not variables of the host are absent. -/
theorem snapshot_exact (env : List Bytes) (k : Bytes) : lookup (snapshot env) k = hostValue env k :=
  -- looking `k` up commutes with one step of the loop
  (List.foldl_hom (fun m => lookup m k) fun m e => by
    cases splitEnv e with
    | none => rfl
    | some p => exact (lookup_put m p.1 p.2 k).symm).symm

/-- a name occurs once in the snapshot, however often the host environment sets it -/
theorem snapshot_distinct (env : List Bytes) : Distinct (snapshot env) := by
  refine List.foldlRecOn env _ (by simp [Distinct]) fun m hm e _ => ?_
  cases splitEnv e with
  | none => exact hm
  | some p => exact put_distinct p.1 p.2 hm

/-- with distinct names in the host environment, an entry `k=v` is seen as exactly `v` -/
theorem snapshot_entry (pre post : List Bytes) (k v : Bytes) (hk : (61 : UInt8) ∉ k)
    (hpost : ∀ e ∈ post, ∀ k' v', splitEnv e = some (k', v') → k' ≠ k) :
    lookup (snapshot (pre ++ (k ++ 61 :: v) :: post)) k = some v := by
  rw [snapshot_exact]; unfold hostValue
  rw [List.foldl_append, List.foldl_cons, split_first_eq k v hk]
  simp only [if_true]
  refine List.foldlRecOn (motive := fun acc => acc = some v) post _ rfl fun acc hacc e he => ?_
  cases hs : splitEnv e with
  | none => exact hacc
  | some p => simp only [if_neg (hpost e he p.1 p.2 hs)]; exact hacc

/-- **Isolation**: a write or delete in runtime `i` changes neither any other runtime's map nor the host environment. -/
theorem step_isolated (w : World) (i j : Nat) (op : Op) (h : i ≠ j) :
    (w.step i op).rts[j]? = w.rts[j]? ∧ (w.step i op).host = w.host := by
  simp [World.step, h]

theorem run_host_unchanged (w : World) (ops : List (Nat × Op)) : (w.run ops).host = w.host :=
  List.foldlRecOn (motive := fun w' : World => w'.host = w.host) ops _ rfl fun _ h _ _ => h

/-- after any history of operations that never address runtime `j`, runtime `j` still sees the snapshot -/
theorem run_isolated (host : List Bytes) (n j : Nat) (ops : List (Nat × Op)) (hj : j < n)
    (h : ∀ o ∈ ops, o.1 ≠ j) : ((World.init host n).run ops).rts[j]? = some (snapshot host) := by
  refine List.foldlRecOn (motive := fun w : World => w.rts[j]? = some (snapshot host)) ops _ (by simp [World.init, hj])
    fun w hw o ho => ?_
  rw [(step_isolated w o.1 j o.2 (h o ho)).1]; exact hw

/-- **the snapshot is taken when the module is first required in that runtime**: a runtime created later sees the
host environment as it is *then* (every name with the host's current value), and creating it changes no other runtime -/
theorem new_runtime_sees_the_current_host (w : World) (k : Bytes) :
    (w.stepW .newRuntime).rts.length = w.rts.length + 1 ∧
    (∀ m, (w.stepW .newRuntime).rts[w.rts.length]? = some m → lookup m k = hostValue w.host k) ∧
    (∀ j, j < w.rts.length → (w.stepW .newRuntime).rts[j]? = w.rts[j]?) ∧
    (w.stepW .newRuntime).host = w.host := by
  refine ⟨by simp [World.stepW], ?_, ?_, rfl⟩
  · intro m hm
    have : m = snapshot w.host := by simpa [World.stepW] using hm.symm
    rw [this]; exact snapshot_exact w.host k
  · intro j hj; simp [World.stepW, List.getElem?_append_left hj]

/-- **later changes of the host's environment reach no existing runtime** (and JavaScript writes never reach the host:
`step_isolated`) -/
theorem host_changes_reach_no_runtime (w : World) (k v : Bytes) :
    (w.stepW (.hostSet k v)).rts = w.rts ∧ (w.stepW (.hostDel k)).rts = w.rts := ⟨rfl, rfl⟩

/-- a JavaScript write or delete, in the extended world, still touches only its own runtime and not the host -/
theorem js_step_isolated (w : World) (i j : Nat) (op : Op) (h : i ≠ j) :
    (w.stepW (.js i op)).rts[j]? = w.rts[j]? ∧ (w.stepW (.js i op)).host = w.host :=
  step_isolated w i j op h

/-- non-vacuity: a value with several `=`, an empty value, an entry without `=` -/
example : snapshot ["A=b=c".toUTF8.toList, "E=".toUTF8.toList, "NOEQ".toUTF8.toList] =
    [("E".toUTF8.toList, []), ("A".toUTF8.toList, "b=c".toUTF8.toList)] := by decide +kernel

end GN.Props.C20
