import GN.Util.Format

/-! # C19 — util.format keeps literals, is positional; console sends one message per call -/

namespace GN.Props.C19
open GN GN.Util

theorem fmtLoop_pending (c : Char) (cs : List Char) (args : List Rendered) :
    fmtLoop ('%' :: c :: cs) false args = fmtLoop (c :: cs) true args := by
  simp [fmtLoop]

/-- the `if` chain is the one in `tokenize`; its five cases are split here, once, for `loop_eq_render` and
`tokenize_source` -/
theorem pct_token (c : Char) :
    ∃ t, (if c == 's' then Tok.dirS else if c == 'd' then .dirD else if c == 'j' then .dirJ
        else if c == '%' then .pctpct else .pctOther c) = t ∧ t.source = ['%', c] ∧
      ∀ ts a as, render (t :: ts) (a :: as) =
        ((fmtDirective c a).1 ++ (render ts (if (fmtDirective c a).2 then as else a :: as)).1,
          (render ts (if (fmtDirective c a).2 then as else a :: as)).2) := by
  by_cases hs : c = 's'
  · subst hs; exact ⟨_, rfl, rfl, fun _ _ _ => rfl⟩
  by_cases hd : c = 'd'
  · subst hd; exact ⟨_, rfl, rfl, fun _ _ _ => rfl⟩
  by_cases hj : c = 'j'
  · subst hj; exact ⟨_, rfl, rfl, fun _ _ _ => rfl⟩
  by_cases hp : c = '%'
  · subst hp; exact ⟨_, rfl, rfl, fun _ _ _ => rfl⟩
  have h := fun {x} (hx : c ≠ x) => beq_eq_false_iff_ne.mpr hx
  refine ⟨.pctOther c, ?_, rfl, fun _ _ _ => ?_⟩
  · rw [h hs, h hd, h hj, h hp]; rfl
  · rw [fmtDirective, h hs, h hd, h hj, h hp]; rfl

theorem loop_eq_render (f : List Char) : ∀ args, fmtLoop f false args = render (tokenize f) args := by
  induction f using tokenize.induct with
  | case1 => intro args; cases args <;> rfl
  | case2 => intro args; cases args <;> rfl
  | case3 c cs ih =>
    intro args
    obtain ⟨t, e, hsrc, hren⟩ := pct_token c
    rw [fmtLoop_pending, tokenize, e]
    cases args with
    | nil => rw [fmtLoop, render, hsrc, ih]; rfl
    | cons a as => rw [fmtLoop, hren, ← ih]
  | case4 c cs h1 h2 ih =>
    intro args
    have hc : (c == '%') = false := beq_eq_false_iff_ne.mpr fun e => by
      cases cs with
      | nil => exact h1 e rfl
      | cons d ds => exact h2 d ds e rfl
    cases args with
    | nil => simp [fmtLoop, hc, tokenize, render, ih, Tok.source]
    | cons a as => simp [fmtLoop, hc, tokenize, render, ih]

theorem render_nil (ts : List Tok) : render ts [] = (ts.flatMap Tok.source, []) := by
  induction ts with
  | nil => simp [render]
  | cons t ts ih => simp [render, ih]

theorem tokenize_source (f : List Char) : (tokenize f).flatMap Tok.source = f := by
  induction f using tokenize.induct with
  | case1 => rfl
  | case2 => rfl
  | case3 c cs ih =>
    obtain ⟨t, e, hsrc, -⟩ := pct_token c
    rw [tokenize, e, List.flatMap_cons, hsrc, ih]; rfl
  | case4 c cs h1 h2 ih =>
    rw [tokenize]
    · simp [Tok.source, ih]
    · exact h1
    · exact h2

theorem fmtLoop_lit {f : List Char} (h : ∀ c ∈ f, c ≠ '%') (g : List Char) (args : List Rendered) :
    fmtLoop (f ++ g) false args = (f ++ (fmtLoop g false args).1, (fmtLoop g false args).2) := by
  induction f with
  | nil => rfl
  | cons c cs ih =>
    have hc : (c == '%') = false := beq_eq_false_iff_ne.mpr (h c List.mem_cons_self)
    rw [List.cons_append, fmtLoop.eq_4, hc, ih fun d hd => h d (List.mem_cons_of_mem _ hd)]
    rfl

/-- **util.format = positional rendering of the tokenised format string**, for every format string and
every argument list (and every rendering of the arguments). -/
theorem format_eq_spec (f : List Char) (args : List Rendered) : format f args = formatSpec f args := by
  unfold format formatSpec; rw [loop_eq_render]

/-- **No arguments: identity.** `util.format(f)` is `f`, every `%`, `%%`, `%x` and a final `%` included. -/
theorem no_args_identity (f : List Char) : format f [] = f := by
  rw [format_eq_spec]; unfold formatSpec
  rw [render_nil]; simp [surplus, tokenize_source]

/-- **A final `%` is kept**: a format string whose only `%` is its last character is copied whole, whatever the
arguments are; they are appended as in `surplus_appended`. -/
theorem trailing_percent_kept (f : List Char) (args : List Rendered) (h : ∀ c ∈ f, c ≠ '%') :
    format (f ++ ['%']) args = f ++ ['%'] ++ surplus args := by
  simp [format, fmtLoop_lit h, fmtLoop]

/-- a format string without `%` is copied unchanged and every argument is appended after a single space -/
theorem surplus_appended (f : List Char) (args : List Rendered) (h : ∀ c ∈ f, c ≠ '%') :
    format f args = f ++ surplus args := by
  have := fmtLoop_lit h [] args
  rw [List.append_nil] at this
  simp [format, this, fmtLoop]

/-- **Positional.** `%s`, `%d`, `%j` take the next unused argument's `String`, `Number`, `JSON` rendering. -/
theorem directive_takes_next (a : Rendered) (as : List Rendered) (cs : List Char) :
    format ('%' :: 's' :: cs) (a :: as) = a.s ++ format cs as ∧
    format ('%' :: 'd' :: cs) (a :: as) = a.d ++ format cs as ∧
    format ('%' :: 'j' :: cs) (a :: as) = a.j ++ format cs as := by
  simp [format, fmtLoop, fmtDirective]

/-- `%%` is `%` while an argument is still unused and does not consume it; an unknown letter keeps its `%` -/
theorem pctpct_and_unknown (a : Rendered) (as : List Rendered) (cs : List Char) (x : Char)
    (hx : x ≠ 's' ∧ x ≠ 'd' ∧ x ≠ 'j' ∧ x ≠ '%') :
    format ('%' :: '%' :: cs) (a :: as) = '%' :: format cs (a :: as) ∧
    format ('%' :: x :: cs) (a :: as) = '%' :: x :: format cs (a :: as) := by
  obtain ⟨h1, h2, h3, h4⟩ := hx
  simp [format, fmtLoop, fmtDirective, h1, h2, h3, h4]

/-- a directive with no argument left stays as it is -/
theorem missing_arg_kept (c : Char) (cs : List Char) :
    format ('%' :: c :: cs) [] = '%' :: c :: format cs [] := by
  simp [format, fmtLoop]

/-- **console sinks**: log/info/debug → Log, warn → Warn, error → Error — about the *generated* table -/
theorem console_sinks_match :
    ∀ m ∈ ["log", "info", "debug", "warn", "error"], sinkOf m = sinkSpec m := by decide +kernel

theorem console_methods_exactly :
    Generated.consoleSinks.map (·.1) = ["log", "error", "warn", "info", "debug"] := by decide +kernel

/-- **console = one message per call, equal to util.format of the arguments, in call order** -/
theorem console_eq_spec (calls : List ConsoleCall)
    (h : ∀ c ∈ calls, c.method ∈ ["log", "info", "debug", "warn", "error"]) :
    consoleModel calls = consoleSpec calls := by
  induction calls with
  | nil => rfl
  | cons c cs ih =>
    have hc := console_sinks_match c.method (h c (by simp))
    have := ih (fun d hd => h d (by simp [hd]))
    simp only [consoleModel, consoleSpec, List.filterMap_cons] at this ⊢
    rw [hc, this]
    simp [format_eq_spec]

/-- non-vacuity -/
example : format "100%".toList [] = "100%".toList ∧
    format "a%s%%%x%".toList [⟨['S'], ['D'], ['J']⟩, ⟨['T'], [], []⟩] = "aS%%x% T".toList := by decide +kernel

end GN.Props.C19
