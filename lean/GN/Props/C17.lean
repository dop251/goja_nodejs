import GN.EventLoop.Confinement
import GN.Props.C07
import GN.StringKey

/-! # C17 — thread-safe APIs and a shared Registry: no data race, no cross-runtime leak

What a theorem can carry: the *lockset / confinement argument*.  The table of all accesses to the loop's fields
(function, write?, atomic?, locks held) is recomputed from eventloop.go on every run; with the reviewed assignment of
functions to goroutine roles, every pair of conflicting accesses that can overlap in time is shown to be ordered by a
common mutex, by sync/atomic on both sides, or by the Stop protocol (one listed exception, ordered by a C07 theorem).
For the Registry: `getCompiledSource` holds the registry mutex for its whole body (regenerated fact), so requests of any
runtimes in any interleaving are a sequence of atomic steps, for which "a file that compiles is fetched at most once" is
proved for every sequence; module instance caches are fields of the per-runtime RequireModule, not of the Registry.
What it cannot carry — that the Go memory model, channels, sync.Cond and time.Timer behave as assumed, and deadlock
freedom of the real schedule — is exercised by the race-detector stress harness (`race-stress`, built with -race): that
part is search, not proof.  Deadlock freedom of the loop/Stop/Terminate protocol at the model level is C03/C07. -/

namespace GN.Props.C17
open GN GN.Generated GN.EventLoop.Confinement

/-- every function of eventloop.go that touches a field of the loop has a reviewed goroutine role (a new function
breaks this theorem until it is classified) -/
theorem every_function_has_a_role : elAccesses.all (fun a => (roleOf a.fn).isSome) = true := by
  -- here and below, roles are first looked up by numeric code (GN/StringKey): the kernel's work doubles when it
  -- compares the function names as strings
  simp only [roleOf, find?_key_eq Prod.fst, Option.isSome_map]
  decide +kernel

/-- **no data race on the loop's fields**: any two accesses to the same field, one of them a write, by functions
whose roles can overlap in time, hold a common mutex, or are both atomic, or are ordered by the Stop protocol -/
theorem race_free : raceFree elAccesses = true := by
  simp only [raceFree, pairOK, roleOf, find?_key_eq Prod.fst]
  decide +kernel

/-- the same for the fields of the job objects (Timer, Interval, Immediate): they are touched on the loop goroutine
only, except `ticker`, which the interval's own goroutine reads after the `go` statement that follows the write -/
theorem race_free_jobs :
    jobAccesses.all (fun a => (jobRoleOf a.fn).isSome) = true ∧ jobRaceFree jobAccesses = true := by
  simp only [jobRaceFree, jobPairOK, jobRoleOf, roleOf, find?_key_eq Prod.fst]
  decide +kernel

/-- the only access ordered by protocol rather than by a lock is Stop()'s final read of jobCount … -/
theorem protocol_exceptions : protocolOrdered = [("EventLoop.Stop", "jobCount")] := rfl

/-- … and it is ordered: Stop() returns only after the loop goroutine has left `run` -/
theorem stop_orders_the_exception {s : GN.EventLoop.Queue.St} (h : GN.EventLoop.Queue.Reach s)
    (hw : s.cpc = .waiting) :
    s.canRun = false ∧ (s.token = true ∨ s.lpc = .swap true ∨ s.lpc = .exec true ∨ s.lpc = .chk ∨ s.lpc = .exit) :=
  GN.Props.C07.stop_waits_for_a_served_loop h hw

/-- every field of the loop is either a synchronisation object or appears in the access table / is set at
construction only -/
theorem fields_accounted_for :
    eventLoopFields.all (fun f => ["auxJobsLock", "stopLock", "stopCond", "wakeupChan", "jobChan"].contains f
      || elAccesses.any (fun a => a.field == f)) = true := by decide +kernel

/-- `getCompiledSource` runs under the registry mutex from its first statement to its return -/
theorem compile_is_atomic : getCompiledSourceHoldsLock = true := by decide

/-- **each source file that compiles is fetched (and compiled) at most once per Registry** — for every sequence of
requests, i.e. every interleaving of any number of runtimes -/
theorem compiled_at_most_once (files : String → Src) (ps : List String) (q : String) (h : files q = .ok) :
    (runRequests files ps).loads.count q ≤ 1 :=
  (List.foldlRecOn (motive := LoadedOnce q) ps _ (by simp [LoadedOnce]) fun _ hr _ _ => getCompiled_inv h hr).1

/-- **module instances are per runtime**: the caches of loaded modules are fields of RequireModule (one per runtime),
the Registry holds only loaders, compiled programs (immutable) and configuration -/
theorem instances_are_per_runtime :
    (["modules", "nativeModules", "resolved", "nodeModules"].all fun f => requireModuleFields.contains f && !registryFields.contains f) = true
    ∧ registryFields = ["sync.Mutex", "native", "compiled", "srcLoader", "pathResolver", "globalFolders"] :=
  ⟨by decide +kernel, rfl⟩

/-! non-vacuity: the table is populated, and a conflicting, overlapping pair exists that the argument has to (and does) cover -/
example : elAccesses.length > 40 ∧
    (elAccesses.any fun a => elAccesses.any fun b => a.field == b.field && a.write && roleOf a.fn == some .loop
        && roleOf b.fn == some .any && protectedPair a b) = true := by
  simp only [roleOf, find?_key_eq Prod.fst]
  decide +kernel
example : (runRequests (fun _ => .ok) ["a", "b", "a", "a", "b"]).loads = ["a", "b"] := by decide +kernel

end GN.Props.C17
