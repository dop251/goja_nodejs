import GN.Require.ResolveLemmas
import GN.Generated.Misc

/-! # C02 — require() selects the file the Node.js CommonJS resolution algorithm selects -/

namespace GN.Props.C02
open GN GN.Require

/-- **Candidate order** for a path request: the exact file, then `.js`, then `.json`, then the directory:
`package.json` "main" as file (exact, .js, .json), then as directory (index.js, index.json); without a usable
main: index.js, then index.json. -/
theorem candidate_order (env : Env) (p : Path) :
    fodCands env p =
      [p, p ++ ".js", p ++ ".json"] ++
      (match env.pkgMain (env.join p "package.json") with
       | none => [env.join p "index.js", env.join p "index.json"]
       | some main =>
         let m := env.join p main
         [m, m ++ ".js", m ++ ".json", env.join m "index.js", env.join m "index.json"]) := by
  unfold fodCands fileCands dirCands indexCands
  cases env.pkgMain (env.join p "package.json") <;> simp [fileCands]

/-- **The code's probing functions are "first hit in the candidate list"**, whatever the module loader does
(evaluate bodies, consult caches, log): for every state, path, tree and path functions. -/
theorem file_request_is_first_candidate {σ ε : Type} (env : Env) (load : σ → Path → σ × Res ε) (st : σ) (p : Path) :
    loadAsFileOrDirectory env load st p = tryList load st (fodCands env p) :=
  loadAsFileOrDirectory_eq env load st p

/-- **Bare names**: global folders first (as the project's tests pin), then one `node_modules` per directory level
from the requiring directory up to the root, nearest first; in each, the same file-or-directory candidates. -/
theorem bare_request_is_first_candidate {σ ε : Type} (env : Env) (load : σ → Path → σ × Res ε)
    (fuel : Nat) (st : σ) (modpath start : Path) :
    loadNodeModules env load fuel st modpath start = tryList load st (nmCands env fuel modpath start) :=
  loadNodeModules_eq env load fuel st modpath start

/-- the walk: `start/node_modules` (or `start` itself when it already is a `node_modules` directory — not doubled),
then the same from the parent, until the root (`Dir(start) = start`) or `..` -/
theorem node_modules_walk (env : Env) (fuel : Nat) (start : Path) :
    nmDirs env (fuel + 1) start =
      let p := if env.base start ≠ "node_modules" then env.join start "node_modules" else start
      if start = ".." ∨ env.dir start = start then [p] else p :: nmDirs env fuel (env.dir start) := by
  simp only [nmDirs]
  by_cases h1 : start = ".." <;> by_cases h2 : env.dir start = start <;> simp [h1, h2]

/-- a bare name is never tried as a relative file: every candidate lies in a global folder or a `node_modules`
directory of the walk -/
theorem bare_never_relative (env : Env) (fuel : Nat) (modpath start : Path) :
    ∀ c ∈ nmCands env fuel modpath start,
      ∃ d ∈ env.globalFolders ++ nmDirs env fuel start, c ∈ fodCands env (env.join d modpath) :=
  fun _ => List.mem_flatMap.mp

/-- **Pure reading** (a loader that only reports what the tree contains): the selected file is the first candidate
that exists; a candidate whose loader error is not "does not exist" ends the search with that error; when no
candidate exists the result is "none", which `resolve` turns into `InvalidModuleError`. -/
theorem selection_is_first_existing (probe : Path → Probe) (cands : List Path) :
    tryList (probeLoad probe) () cands = ((), specSelect probe cands) := by
  induction cands with
  | nil => rfl
  | cons c cs ih =>
    simp only [tryList, probeLoad, specSelect]
    cases probe c <;> simp [ih]

/-- candidates that are missing are passed over -/
theorem specSelect_missing {probe : Path → Probe} {pre : List Path} (hpre : ∀ d ∈ pre, probe d = .missing)
    (rest : List Path) :
    specSelect probe (pre ++ rest) = specSelect probe rest := by
  induction pre with
  | nil => rfl
  | cons d ds ih =>
    rw [List.cons_append, specSelect, hpre d List.mem_cons_self]
    exact ih fun e he => hpre e (List.mem_cons_of_mem _ he)

theorem no_candidate_means_invalid (probe : Path → Probe) (cands : List Path)
    (h : ∀ c ∈ cands, probe c = .missing) : specSelect probe cands = .none := by
  rw [← List.append_nil cands, specSelect_missing h]; rfl

theorem loader_error_propagates (probe : Path → Probe) (pre post : List Path) (c : Path)
    (hpre : ∀ d ∈ pre, probe d = .missing) (hc : probe c = .failure) :
    specSelect probe (pre ++ c :: post) = .err () := by
  rw [specSelect_missing hpre, specSelect, hc]

theorem first_existing_wins (probe : Path → Probe) (pre post : List Path) (c : Path) (id : Nat)
    (hpre : ∀ d ∈ pre, probe d = .missing) (hc : probe c = .file id) :
    specSelect probe (pre ++ c :: post) = .found id := by
  rw [specSelect_missing hpre, specSelect, hc]
/-- in the model of the code, `resolve` turns "no candidate" into `InvalidModuleError`, never into success -/
theorem path_classifier :
    isFileOrDirectoryPath "." = true ∧ isFileOrDirectoryPath ".." = true ∧ isFileOrDirectoryPath "./a" = true ∧
    isFileOrDirectoryPath "../a" = true ∧ isFileOrDirectoryPath "/a" = true ∧
    isFileOrDirectoryPath "a" = false ∧ isFileOrDirectoryPath "a/b" = false ∧ isFileOrDirectoryPath ".a" = false ∧
    isFileOrDirectoryPath "..a" = false := by decide +kernel

/-- non-vacuity: a tree in which file, `.js`, `.json` and directory all exist selects the exact file; a package
whose main names a directory selects that directory's index -/
example :
    let env : Env := { join := fun a b => a ++ "/" ++ b, dir := id, base := id, globalFolders := [],
                       pkgMain := fun p => if p == "/app/p/package.json" then some "sub" else none }
    let probe : Path → Probe := fun p =>
      if p == "/app/x" then .file 1 else if p == "/app/x.js" then .file 2 else if p == "/app/x/index.js" then .file 3
      else if p == "/app/p/sub/index.js" then .file 4 else if p == "/app/p/index.js" then .file 5 else .missing
    specSelect probe (fodCands env "/app/x") = .found 1 ∧ specSelect probe (fodCands env "/app/p") = .found 4 := by
  decide +kernel

/-- **the candidate names are the ones in require/resolve.go** (string literals of loadAsFile, loadIndex,
loadAsDirectory, loadNodeModules re-extracted on every run, in source order): `.js` before `.json`, `index.js` before
`index.json`, `package.json` (and the one key read from it, spelled exactly `main`; the `""` is the reset of a
non-string value), `node_modules` — the constants the candidate-order theorems above are stated with -/
theorem resolve_literals_match :
    Generated.resolveLiterals =
      [("loadAsFile", [".js", ".json"]), ("loadIndex", ["index.js", "index.json"]),
       ("loadAsDirectory", ["package.json", "main", ""]), ("loadNodeModules", ["node_modules", "node_modules", ".."])] := rfl

end GN.Props.C02
