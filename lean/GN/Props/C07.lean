import GN.EventLoop.Queue

/-! # C07 — Stop() always returns and loses nothing; a restart resumes all pending work -/

namespace GN.Props.C07
open GN.EventLoop.Queue

/-- **Stop handshake.** While Stop waits on the condition, `canRun` is 0 and the loop is provably on its way out:
the token is in the channel, or the loop is between consuming it and the `canRun` check, or it is exiting. -/
theorem stop_waits_for_a_served_loop {s : St} (h : Reach s) (hw : s.cpc = .waiting) :
    s.canRun = false ∧ (s.token = true ∨ s.lpc = .swap true ∨ s.lpc = .exec true ∨ s.lpc = .chk ∨ s.lpc = .exit) :=
  stop_is_served h hw

/-- from each of those states the loop's own steps lead to the exit without passing the select again:
swap → exec → … → chk → exit (canRun = 0), and the exit wakes Stop -/
theorem chk_leads_out (s t : St) (hc : s.canRun = false) (h : stepQ s .chk = some t) : t.lpc = .exit := by
  obtain ⟨-, rfl⟩ := stepQ_eq_some h
  simp [hc]

theorem exit_wakes_stop (s t : St) (hw : s.cpc = .waiting) (h : stepQ s .exit = some t) :
    t.cpc = .out ∧ t.running = false := by
  obtain ⟨-, rfl⟩ := stepQ_eq_some h
  simp [hw]

/-- **No effect on a loop that is not running**: the stop-request steps are not enabled then -/
theorem stop_on_stopped_loop_is_noop (s : St) (h : s.running = false) :
    stepQ s .stopStore = none ∧ stepQ s .snwStore = none := by
  simp [stepQ, h]

/-- **StopNoWait returns without waiting**: it is two non-blocking steps (store, owed token send), enabled whenever
the loop runs — including from a callback (`lpc = exec _`) -/
theorem stopNoWait_from_callback (s : St) (k : Bool) (hr : s.running = true) (hl : s.lpc = .exec k) (hc : s.cpc = .out) :
    ∃ t, stepQ s .snwStore = some t ∧ t.lpc = .exec k ∧ t.canRun = false ∧ t.pend = s.pend + 1 := by
  simp [stepQ, hr, hc, hl]

/-- **Stopping loses nothing**: see `GN.Props.C04.controller_steps_keep_queue`; here: in every reachable state the
accepted functions are still exactly executed ++ batch ++ queue, whatever Stop/Start cycles happened -/
theorem nothing_lost {s : St} (h : Reach s) : s.accepted = s.executed ++ s.batch ++ s.aux := h.invFifo

/-- a restart is enabled as soon as the loop has exited and Stop has returned -/
theorem restart_enabled (s : St) (h1 : s.running = false) (h2 : s.cpc = .out) (h3 : s.lpc = .idle) :
    ∃ t, stepQ s .start = some t ∧ t.running = true ∧ t.canRun = true ∧ t.aux = s.aux := by
  simp [stepQ, h1, h2, h3]

example : ∃ t, runLabels init [.start, .swap, .execDone, .stopStore, .stopWake, .takeToken, .swap, .execDone, .chk, .exit] = some t ∧
    t.running = false ∧ t.cpc = .out := by decide

end GN.Props.C07

/-! Audited with this property, its progress half (`GN/EventLoop/Progress.lean`):
`loop_step_decreases_measure`, `other_step_bounded`, `stop_returns_after_bounded_loop_steps`,
`stop_returns_after_seven_control_steps`, `stop_needs_at_least`, `loop_not_stuck_while_stop_waits`, `stop_can_return`,
`no_bound_independent_of_submissions`. -/
