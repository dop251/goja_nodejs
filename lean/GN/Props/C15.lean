import GN.Require.Ideal

/-!
# C15 — native/core names resolve by registration only, stably; 'node:' means core

Theorems about the reference semantics: which loader a name denotes (`nativeOf`) is a function of the
registration tables and the name alone; instances are created at most once per loader and runtime.
The model of the code is tied to it by cache transparency and by the correspondence run.
-/

namespace GN.Props.C15
open GN GN.Require

/-- **Lookup order**: registry-level native, else global native, else core -/
theorem lookup_order (t : Tree) (name : String) :
    (t.regNative.contains name = true → nativeOf t name = .inl (some ("R", name))) ∧
    (t.regNative.contains name = false → t.globNative.contains name = true →
        nativeOf t name = .inl (some ("G", name))) ∧
    (t.regNative.contains name = false → t.globNative.contains name = false → t.core.contains name = true →
        nativeOf t name = .inl (some ("C", name))) := by
  refine ⟨?_, ?_, ?_⟩
  · intro h; simp only [nativeOf, h, ↓reduceIte]
  · intro h1 h2; simp only [nativeOf, h1, h2, Bool.false_eq_true, ↓reduceIte]
  · intro h1 h2 h3; simp only [nativeOf, h1, h2, h3, Bool.false_eq_true, ↓reduceIte]

/-- **`node:X` only ever means a core module**: a name that is not itself registered and starts with `node:`
denotes the core module with the prefix stripped, or fails with "No such built-in module" — never a native
module, never a file -/
theorem node_prefix_core_only (t : Tree) (name : String)
    (h1 : t.regNative.contains name = false) (h2 : t.globNative.contains name = false)
    (h3 : t.core.contains name = false) (hp : name.startsWith Generated.nodePrefix = true) :
    nativeOf t name = .inr () ∨
    ∃ bare, t.core.contains bare = true ∧ nativeOf t name = .inl (some ("C", bare)) := by
  simp only [nativeOf, h1, h2, h3, hp, Bool.false_eq_true, ↓reduceIte]
  split
  · next h => exact Or.inr ⟨_, h, rfl⟩
  · exact Or.inl rfl

/-- an unregistered, unprefixed name is not a native/core name at all: resolution falls through to node_modules -/
theorem unknown_name_falls_through (t : Tree) (name : String)
    (h1 : t.regNative.contains name = false) (h2 : t.globNative.contains name = false)
    (h3 : t.core.contains name = false) (hp : name.startsWith Generated.nodePrefix = false) :
    nativeOf t name = .inl none := by
  simp only [nativeOf, h1, h2, h3, hp, Bool.false_eq_true, ↓reduceIte]

/-- **History independence**: the loader a request yields is `nativeOf`, whatever has been required before
(the state only decides whether an instance already exists) -/
theorem choice_is_pure (t : Tree) (st : ISt) (name : String) :
    match nativeOf t name with
    | .inl (some l) => ∃ id, (idealNative t st name).2 = some (.found id) ∧
                             alookup (idealNative t st name).1.natives l = some id
    | .inl none => idealNative t st name = (st, none)
    | .inr () => idealNative t st name = (st, some (.err .noSuchBuiltin)) := by
  unfold idealNative
  cases h : nativeOf t name with
  | inr u => simp
  | inl o =>
    cases o with
    | none => simp
    | some l =>
      simp only
      cases hl : alookup st.natives l with
      | some id => exact ⟨id, rfl, hl⟩
      | none => exact ⟨st.next, rfl, by simp [ISt.emit, alookup, ainsert]⟩

/-- **Each loader runs at most once per runtime; repeated calls return the identical object**: once an instance
of the loader exists, any request that denotes that loader returns it and changes nothing (no loader event) -/
theorem loader_runs_once (t : Tree) (st : ISt) (name : String) (l : String × String) (id : Nat)
    (hn : nativeOf t name = .inl (some l)) (hi : alookup st.natives l = some id) :
    idealNative t st name = (st, some (.found id)) := by
  simp [idealNative, hn, hi]

/-- **`X` and `node:X` are one object** when `X` is a core module that is not overridden: both spellings denote
the same loader, hence (by `loader_runs_once`) the same instance -/
theorem prefixed_and_unprefixed_same_loader (t : Tree) (x px : String)
    (hx1 : t.regNative.contains x = false) (hx2 : t.globNative.contains x = false) (hx3 : t.core.contains x = true)
    (hp1 : t.regNative.contains px = false) (hp2 : t.globNative.contains px = false) (hp3 : t.core.contains px = false)
    (hpre : px.startsWith Generated.nodePrefix = true)
    (hstrip : (px.drop Generated.nodePrefix.length).toString = x) :
    nativeOf t px = nativeOf t x := by
  simp only [nativeOf, hx1, hx2, hx3, hp1, hp2, hp3, hpre, hstrip, Bool.false_eq_true, ↓reduceIte]

/-- the prefix is re-extracted from require/resolve.go -/
theorem node_prefix_value : Generated.nodePrefix = "node:" := rfl

/-- non-vacuity: overlapping registrations -/
example :
    let t : Tree := { file := [], loadErr := [], pkgMain := [], globalFolders := [],
                      regNative := ["cr", "util"], globNative := ["cg", "cgr"], core := ["cr", "cg", "cgr", "util", "fs", "node:test"] }
    nativeOf t "util" = .inl (some ("R", "util")) ∧ nativeOf t "cg" = .inl (some ("G", "cg")) ∧
    nativeOf t "fs" = .inl (some ("C", "fs")) ∧ nativeOf t "node:test" = .inl (some ("C", "node:test")) ∧
    nativeOf t "zzz" = .inl none := by decide +kernel

end GN.Props.C15
