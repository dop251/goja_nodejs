import GN.Url.ObjSpec
import GN.Url.ObjLemmas
import GN.Url.ReparseLemmas

/-! # C13 — a URL object stays one coherent URL under every setter and searchParams history

The state machine `GN.Url.Obj` (UrlObj.lean) transcribes url/url.go + url/nodeurl.go; `Reach` (ObjSpec.lean) is the set
of states any script can reach: any constructor call, then any sequence of setter assignments and searchParams
operations (those that throw leave the state unchanged), with getters read at any point in between.  Each statement
below holds for every reachable state — every history, with no bound on its length.  The model is tied to the code by
running both on generated histories and comparing every getter after every step; `href = toString() = toJSON()` is one
function in the model and three getters in that comparison. -/

namespace GN.Props.C13
open GN GN.Url GN.Url.Obj

/-- **searchParams lists exactly the pairs of the query; search is '' or '?'+query** — in every reachable state, in
particular right after `search` or `href` was assigned and right after searchParams was changed -/
theorem search_params_coherent : SearchParamsCoherent := by
  intro st hr
  have hi := (qinv_sync (qinv_reach hr)).2
  simp only [observe, shownQuery]
  -- `search` is `?` and the query, or nothing: without its first byte it is the query
  generalize st.sync.url.rawQuery = q at hi ⊢
  cases q with
  | nil => exact ⟨Or.inl rfl, hi⟩
  | cons c t => exact ⟨Or.inr ⟨_, List.cons_ne_nil c t, rfl⟩, hi⟩

/-- `href` is the serialisation of the very state `search` is read from (so it shows a searchParams change at once),
and reading the getters twice gives the same answers -/
theorem href_shows_the_query : HrefShowsQuery := by
  intro st _
  refine ⟨rfl, rfl, ?_⟩
  simp only [observe, sync_idem]

/-- **host is hostname plus ':'+port when a port is present** -/
theorem host_is_hostname_port : HostIsHostnamePort :=
  fun st hr => (hostOK_reach (.read st hr)).obs.1

/-- **the default port of the current scheme is never shown** — after construction, after `port`, `host`, `hostname`
assignments and after a `protocol` change that turns the present port into a default -/
theorem default_port_hidden : DefaultPortHidden := by
  intro st hr n hn
  have ho : HostOK st.sync.url.scheme st.sync.url.host := hostOK_reach (.read st hr)
  change atoi st.sync.url.port = some n at hn
  obtain ⟨_, e⟩ := sync_url_shape st
  rcases ho.obs.2 with h | ⟨m, hm, hd⟩
  · rw [h] at hn; cases hn
  · rw [hm] at hn
    cases hn
    rw [e] at hd
    exact hd

/-- the shown port is a decimal number -/
theorem port_is_a_number : PortIsNumber := by
  intro st _
  exact portOf_digits _

/-- **that href can be parsed again by new URL() and yields the same href** — in every reachable state: the
one-argument constructor accepts the shown href (or the host leaves the punycode model, for which no claim is made)
and the URL it builds shows the same href.  Together with `Reach` this also says that **an assignment that would make
the URL unparsable is never stored**: no setter history leads to a state whose href the constructor rejects.
(It was false of the `protocol` setter before its repair: `cex_step_ignored` in ReparseLayout.lean.) -/
theorem href_parses_again_to_itself : ReparseStable := reparseStable

/-- percent-encoding of path, fragment and userinfo is lossless (component-wise half of "href parses again") -/
theorem escape_round_trip : EscapeRoundTrip := escapeRoundTrip

/-- re-normalising never changes a query that was normalised or serialised before -/
theorem query_escape_stable : QueryEscapeStable := ⟨escapeQuery_idem, escapeQuery_serialize⟩

/-! non-vacuity: `http://h:81/p?a=1` is constructed, its searchParams obtained and `b=2` appended: the state is
reachable, search shows `?a=1&b=2` and the port `81` -/
def demoState : Option St :=
  match construct [104,116,116,112,58,47,47,104,58,56,49,47,112,63,97,61,49] none with
  | .ok u =>
    match step { url := u } .getSP with
    | .ok st1 =>
      match step st1 (.spAppend [98] [50]) with
      | .ok st2 => some st2
      | _ => none
    | _ => none
  | _ => none

example : (demoState.map fun st => ((observe st).2.search, (observe st).2.port)) =
    some ([63,97,61,49,38,98,61,50], [56,49]) := by decide +kernel

end GN.Props.C13
