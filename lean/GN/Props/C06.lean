import GN.EventLoop.Ledger

/-! # C06 — Run() returns exactly at quiescence; the live-job count is exact over every history -/

namespace GN.Props.C06
open GN.EventLoop.Ledger

/-- **The count is exact**: in every reachable state of the ledger — after any history of set/clear calls from
JavaScript and from Go, expirations, ticks, deliveries (live or dead), Terminate's cancel loop, terminate/restart —
`jobCount` is the number of jobs that were set and have neither fired (timeouts, immediates) nor been cleared. -/
theorem count_is_exact {s : St} (h : Reach s) :
    s.jobCount = ((s.jobs.countP fun j => !j.cancelled : Nat) : Int) := count_exact h

/-- **Quiescence**: the count is 0 exactly when no live job is left — every timeout has fired or been cleared,
every immediate has run or been cleared, every interval has been cleared. (The loop's condition is `jobCount > 0`.) -/
theorem zero_iff_no_live_job {s : St} (h : Reach s) : s.jobCount = 0 ↔ ∀ j ∈ s.jobs, j.cancelled = true :=
  quiescent_iff h

theorem count_nonneg {s : St} (h : Reach s) : 0 ≤ s.jobCount := by rw [count_exact h]; omega

/-- **The single decrement is guarded by the flag**: `clear` decrements the count by one and is enabled only on a
job that is still live; on a fired or already cleared job only the no-op is enabled, which changes nothing -/
theorem clear_needs_a_live_job (s t : St) (i : Nat) (h : stepL s (.clear i) = some t) :
    ∃ j : Job, s.jobs[i]? = some j ∧ j.cancelled = false ∧ t.jobCount = s.jobCount - 1 := by
  obtain ⟨j, hj, hc, rfl⟩ := stepL_eq_some h
  exact ⟨j, hj, hc, rfl⟩

theorem clear_noop_changes_nothing (s t : St) (i : Nat) (h : stepL s (.clearNoop i) = some t) : t = s := by
  obtain ⟨j, -, -, rfl⟩ := stepL_eq_some h
  rfl

/-- **Terminate with timers still armed leaves a fresh loop**: when every job is cancelled and every goroutine has
finished, nothing is registered and the count is 0 — so the next Run() returns as soon as its own work is done -/
theorem fresh_after_terminate {s : St} (h : Reach s) (hc : ∀ j ∈ s.jobs, j.cancelled = true)
    (ht : ∀ j ∈ s.jobs, j.kind = .timeout → j.g = .done) (hi : ∀ j ∈ s.jobs, j.kind = .interval → j.g = .idone) :
    (∀ j ∈ s.jobs, j.inJobs = false) ∧ s.jobCount = 0 := terminate_leaves_nothing h hc ht hi

/-- a setImmediate refused by a terminated loop is not counted -/
theorem refused_immediate_not_counted (s t : St) (h : stepL s .setImmediateRefused = some t) : t = s :=
  (Option.some.inj (Option.ite_none_right_eq_some.mp h).2).symm

example : (runLabels init [.setTimeout, .setInterval, .setImmediate, .clear 1, .runImmediateLive 2, .expire 0,
    .deliverLive 0, .istop 1, .deliverRemove 1]).map (·.jobCount) = some 0 := by decide +kernel

end GN.Props.C06

/-! Audited with this property, its progress half (`GN/EventLoop/Progress.lean`):
`quiescent_nothing_fires`, `quiescent_disables_live_steps`, `live_work_is_enabled`, `run_exit_never_blocked`,
`run_returns_at_quiescence`. -/

/-! Audited with this property, on the coupled system (`GN/EventLoop/Combined.lean`):
`run_returns_never_earlier`, `run_does_not_return_while_a_job_is_live`, `run_returns_always_then`,
`quiesce_enabled_iff`, `count_stable_at_select`, `live_timer_has_enabled_step_at_select`. -/
