/-!
# Deciding a statement about every byte

`UInt8` has no `Decidable (∀ c, p c)` instance in core.  With this one a byte-class fact is stated as `∀ c : UInt8, …`
and proved by `decide +kernel`, which tries the 256 values.
-/

/-- `p` holds of the bytes `0 … n-1` (a plain loop: cheaper for the kernel than a quantifier over `Fin 256`) -/
def UInt8.allBelow (p : UInt8 → Bool) : Nat → Bool
  | 0 => true
  | n + 1 => p (UInt8.ofNat n) && allBelow p n

theorem UInt8.allBelow_iff (p : UInt8 → Bool) : ∀ n, allBelow p n = true ↔ ∀ k < n, p (UInt8.ofNat k) = true
  | 0 => by simp [allBelow]
  | n + 1 => by
    rw [allBelow, Bool.and_eq_true, allBelow_iff p n]
    constructor
    · rintro ⟨h0, h⟩ k hk
      rcases Nat.lt_succ_iff_lt_or_eq.1 hk with hk | rfl
      · exact h k hk
      · exact h0
    · exact fun h => ⟨h n (Nat.lt_succ_self n), fun k hk => h k (Nat.lt_succ_of_lt hk)⟩

instance UInt8.decidableForall (p : UInt8 → Prop) [DecidablePred p] : Decidable (∀ c, p c) :=
  decidable_of_iff (UInt8.allBelow (fun c => decide (p c)) 256 = true) <| by
    rw [UInt8.allBelow_iff]
    exact ⟨fun h c => by simpa [UInt8.ofNat_toNat] using h c.toNat c.toNat_lt, fun h k _ => by simpa using h (UInt8.ofNat k)⟩
