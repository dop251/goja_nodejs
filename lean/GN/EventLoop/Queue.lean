/-!
# Event loop — the aux queue, the wake-up token, the Stop handshake, Terminate's drain   [C03, C04, C07, C08]

An abstract small-step transition system of the synchronisation skeleton of `eventloop/eventloop.go`:
any number of submitter threads (`addAuxJob` = *enqueue under the lock*, then *non-blocking token send*),
the loop goroutine (`run` / `runAux`: swap the queue, execute the batch, select, check `canRun`, exit),
a controller (`Start`/`Run`, `Stop`, `Terminate`) and `StopNoWait` from anywhere.
Every interleaving of these steps is a path of `Step`.  The executable `stepQ` (a function of a label) is what
the driver runs against recorded traces of the real loop; `stepQ_sound` shows it only takes `Step`s.
-/

namespace GN.EventLoop.Queue

inductive LPc where
  | idle                     -- nobody executes the loop
  | swap (k : Bool)          -- about to swap the queue in runAux; k = true: came from the wake-up arm
  | exec (k : Bool)          -- executing the batch
  | sel                      -- at the select
  | chk                      -- after runAux in the wake-up arm: about to load canRun
  | exit                     -- left the for loop; about to clear `running`
  | tswap                    -- Terminate (controller): flag set, about to swap the queue
  | texec                    -- Terminate: executing the batch
  deriving DecidableEq, Repr

inductive CPc where
  | out                      -- controller not in Stop
  | stored                   -- Stop: stored canRun = 0, about to send the token
  | waiting                  -- Stop: in cond.Wait
  deriving DecidableEq, Repr

structure St where
  aux        : List Nat := []     -- auxJobs (function ids)
  batch      : List Nat := []     -- the slice runAux iterates over, remaining part
  executed   : List Nat := []     -- ghost
  accepted   : List Nat := []     -- ghost
  refused    : List Nat := []     -- ghost
  token      : Bool := false      -- wakeupChan holds a token
  pend       : Nat := 0           -- token sends owed (between append and wakeup(); between StopNoWait's store and wakeup())
  lpc        : LPc := .idle
  cpc        : CPc := .out
  canRun     : Bool := false
  running    : Bool := false
  terminated : Bool := false
  deriving Repr

inductive Step : St → St → Prop where
  | enqueue (s : St) (f : Nat) (ht : s.terminated = false) (hf : f ∉ s.accepted ∧ f ∉ s.refused) :
      Step s { s with aux := s.aux ++ [f], accepted := s.accepted ++ [f], pend := s.pend + 1 }
  | refuse (s : St) (f : Nat) (ht : s.terminated = true) (hf : f ∉ s.accepted ∧ f ∉ s.refused) :
      Step s { s with refused := s.refused ++ [f] }
  | wake (s : St) (h : 0 < s.pend) :
      Step s { s with token := true, pend := s.pend - 1 }
  | start (s : St) (h : s.running = false) (hc : s.cpc = .out) (hl : s.lpc = .idle) :
      Step s { s with running := true, canRun := true, terminated := false, lpc := .swap false }
  | swap (s : St) (k : Bool) (h : s.lpc = .swap k) :
      Step s { s with batch := s.aux, aux := [], lpc := .exec k }
  | execOne (s : St) (k : Bool) (f : Nat) (rest : List Nat) (h : s.lpc = .exec k) (hb : s.batch = f :: rest) :
      Step s { s with batch := rest, executed := s.executed ++ [f] }
  | execDone (s : St) (k : Bool) (h : s.lpc = .exec k) (hb : s.batch = []) :
      Step s { s with lpc := if k then .chk else .sel }
  | quiesce (s : St) (h : s.lpc = .sel) :        -- no live job left (the live-job count is the ledger's business, C06)
      Step s { s with lpc := .exit }
  | takeToken (s : St) (h : s.lpc = .sel) (ht : s.token = true) :
      Step s { s with token := false, lpc := .swap true }
  | chk (s : St) (h : s.lpc = .chk) :
      Step s { s with lpc := if s.canRun then .sel else .exit }
  | exit (s : St) (h : s.lpc = .exit) (hl : s.cpc ≠ .stored) :   -- needs stopLock, which Stop holds between its check and Wait
      Step s { s with lpc := .idle, running := false,
                      cpc := if s.cpc = .waiting then .out else s.cpc }
  | stopStore (s : St) (h : s.cpc = .out) (hr : s.running = true) :
      Step s { s with canRun := false, cpc := .stored }
  | stopWake (s : St) (h : s.cpc = .stored) :
      Step s { s with token := true, cpc := .waiting }
  | snwStore (s : St) (hr : s.running = true) (hc : s.cpc ≠ .stored) :  -- StopNoWait, from any thread (needs stopLock)
      Step s { s with canRun := false, pend := s.pend + 1 }
  | termFlag (s : St) (h : s.running = false) (hc : s.cpc = .out) (hl : s.lpc = .idle) :
      Step s { s with terminated := true, lpc := .tswap }
  | termSwap (s : St) (h : s.lpc = .tswap) :
      Step s { s with batch := s.aux, aux := [], lpc := .texec }
  | termExecOne (s : St) (f : Nat) (rest : List Nat) (h : s.lpc = .texec) (hb : s.batch = f :: rest) :
      Step s { s with batch := rest, executed := s.executed ++ [f] }
  | termExecDone (s : St) (h : s.lpc = .texec) (hb : s.batch = []) :
      Step s { s with lpc := .idle }

def init : St := {}

inductive Lbl where
  | enqueue (f : Nat) | refuse (f : Nat) | wake | start | swap | execOne | execDone | quiesce | takeToken
  | chk | exit | stopStore | stopWake | snwStore | termFlag | termSwap | termExecOne | termExecDone
  deriving Repr, DecidableEq

def stepQ (s : St) : Lbl → Option St
  | .enqueue f =>
    if s.terminated = false ∧ f ∉ s.accepted ∧ f ∉ s.refused then
      some { s with aux := s.aux ++ [f], accepted := s.accepted ++ [f], pend := s.pend + 1 } else none
  | .refuse f =>
    if s.terminated = true ∧ f ∉ s.accepted ∧ f ∉ s.refused then some { s with refused := s.refused ++ [f] } else none
  | .wake => if 0 < s.pend then some { s with token := true, pend := s.pend - 1 } else none
  | .start =>
    if s.running = false ∧ s.cpc = .out ∧ s.lpc = .idle then
      some { s with running := true, canRun := true, terminated := false, lpc := .swap false } else none
  | .swap =>
    match s.lpc with
    | .swap k => some { s with batch := s.aux, aux := [], lpc := .exec k }
    | _ => none
  | .execOne =>
    match s.lpc, s.batch with
    | .exec _, f :: rest => some { s with batch := rest, executed := s.executed ++ [f] }
    | _, _ => none
  | .execDone =>
    match s.lpc, s.batch with
    | .exec k, [] => some { s with lpc := if k then .chk else .sel }
    | _, _ => none
  | .quiesce => if s.lpc = .sel then some { s with lpc := .exit } else none
  | .takeToken => if s.lpc = .sel ∧ s.token = true then some { s with token := false, lpc := .swap true } else none
  | .chk => if s.lpc = .chk then some { s with lpc := if s.canRun then .sel else .exit } else none
  | .exit =>
    if s.lpc = .exit ∧ s.cpc ≠ .stored then
      some { s with lpc := .idle, running := false, cpc := if s.cpc = .waiting then .out else s.cpc } else none
  | .stopStore => if s.cpc = .out ∧ s.running = true then some { s with canRun := false, cpc := .stored } else none
  | .stopWake => if s.cpc = .stored then some { s with token := true, cpc := .waiting } else none
  | .snwStore => if s.running = true ∧ s.cpc ≠ .stored then some { s with canRun := false, pend := s.pend + 1 } else none
  | .termFlag =>
    if s.running = false ∧ s.cpc = .out ∧ s.lpc = .idle then some { s with terminated := true, lpc := .tswap } else none
  | .termSwap => if s.lpc = .tswap then some { s with batch := s.aux, aux := [], lpc := .texec } else none
  | .termExecOne =>
    match s.lpc, s.batch with
    | .texec, f :: rest => some { s with batch := rest, executed := s.executed ++ [f] }
    | _, _ => none
  | .termExecDone =>
    match s.lpc, s.batch with
    | .texec, [] => some { s with lpc := .idle }
    | _, _ => none

inductive Reach : St → Prop where
  | init : Reach init
  | step {s t} : Reach s → Step s t → Reach t

def InvFifo (s : St) : Prop := s.accepted = s.executed ++ s.batch ++ s.aux

def InvBatch (s : St) : Prop := s.batch ≠ [] → (∃ k, s.lpc = .exec k) ∨ s.lpc = .texec

/-- no lost wake-up: the places named are those from which the loop swaps the queue again before it parks at the select -/
def InvWake (s : St) : Prop :=
  s.aux ≠ [] → (s.token = true ∨ 0 < s.pend ∨ s.lpc = .idle ∨ (∃ k, s.lpc = .swap k) ∨ s.lpc = .exit ∨ s.lpc = .tswap)

/-- the Stop handshake: while Stop waits, the token it sent is in the channel, or the loop has taken it and is on
    the wake-up arm (`k = true`), which ends in the check of `canRun` -/
def InvStop (s : St) : Prop :=
  ((s.lpc = .idle ∨ s.lpc = .tswap ∨ s.lpc = .texec) ↔ s.running = false) ∧
  (s.cpc ≠ .out → s.canRun = false ∧ s.running = true) ∧
  (s.cpc = .waiting → s.running = true ∧
      (s.token = true ∨ s.lpc = .swap true ∨ s.lpc = .exec true ∨ s.lpc = .chk ∨ s.lpc = .exit))

theorem InvStop.stopped_iff {s} (h : InvStop s) :
    (s.lpc = .idle ∨ s.lpc = .tswap ∨ s.lpc = .texec) ↔ s.running = false := h.1

theorem InvStop.stopping {s} (h : InvStop s) (hc : s.cpc ≠ .out) : s.canRun = false ∧ s.running = true := h.2.1 hc

theorem InvStop.waiting {s} (h : InvStop s) (hw : s.cpc = .waiting) :
    s.token = true ∨ s.lpc = .swap true ∨ s.lpc = .exec true ∨ s.lpc = .chk ∨ s.lpc = .exit := (h.2.2 hw).2

def InvTerm (s : St) : Prop :=
  (∀ f ∈ s.refused, f ∉ s.accepted) ∧
  (s.terminated = true → s.running = false ∧ (s.lpc = .tswap ∨ s.aux = []))

theorem InvTerm.refused {s} (h : InvTerm s) : ∀ f ∈ s.refused, f ∉ s.accepted := h.1

theorem InvTerm.terminated {s} (h : InvTerm s) (ht : s.terminated = true) :
    s.running = false ∧ (s.lpc = .tswap ∨ s.aux = []) := h.2 ht

theorem fifo_step {s t} (h : Step s t) (hi : InvFifo s) (hb : InvBatch s) : InvFifo t := by
  unfold InvFifo InvBatch at *
  cases h
  case enqueue | swap | termSwap | execOne | termExecOne => simp_all
  all_goals exact hi

theorem batch_step {s t} (h : Step s t) (hb : InvBatch s) : InvBatch t := by
  unfold InvBatch at *
  cases h
  case enqueue | refuse | wake | stopStore | stopWake | snwStore => exact hb
  all_goals simp_all

theorem wake_step {s t} (h : Step s t) (hw : InvWake s) : InvWake t := by
  unfold InvWake at *
  cases h
  case refuse | execOne | termExecOne | stopStore => exact hw
  case execDone hl _ | chk hl =>
    intro hne
    -- the loop was at none of the places that `hw` names, so the token is there or owed
    rcases hw hne with h1 | h1 | h1
    · exact .inl h1
    · exact .inr (.inl h1)
    · simp [hl] at h1
  all_goals simp

theorem stop_step {s t} (h : Step s t) (hs : InvStop s) : InvStop t := by
  -- The third part survives because only the loop's `takeToken` removes the token, and that leads to `swap true`;
  -- at `chk` the loop finds `canRun` off by the second part (only `start` sets `canRun`, and it needs `cpc = out`)
  -- and goes to `exit`, whose step ends the wait.
  unfold InvStop at *
  cases h
  case enqueue | refuse | execOne | termExecOne => exact hs
  all_goals obtain ⟨h1, h2, h3⟩ := hs
  case execDone k _ _ => cases k <;> simp_all
  case chk => cases hc : s.canRun <;> simp_all
  case exit => cases hc : s.cpc <;> simp_all
  all_goals simp_all

theorem term_step {s t} (h : Step s t) (ht : InvTerm s) : InvTerm t := by
  unfold InvTerm at *
  cases h
  case wake | execOne | termExecOne | stopStore | stopWake | snwStore => exact ht
  case enqueue f hr hf =>
    refine ⟨fun g hg hga => ?_, fun h => absurd h (by simp [hr])⟩
    rcases List.mem_append.mp hga with hga | hga
    · exact ht.1 g hg hga
    · exact hf.2 (List.mem_singleton.mp hga ▸ hg)
  case refuse f _ hf =>
    refine ⟨fun g hg => ?_, ht.2⟩
    rcases List.mem_append.mp hg with hg | hg
    · exact ht.1 g hg
    · exact List.mem_singleton.mp hg ▸ hf.1
  all_goals obtain ⟨t1, t2⟩ := ht
  all_goals simp_all

theorem reach_inv {s} (h : Reach s) : InvFifo s ∧ InvBatch s ∧ InvWake s ∧ InvStop s ∧ InvTerm s := by
  induction h with
  | init => simp [init, InvFifo, InvBatch, InvWake, InvStop, InvTerm]
  | step _ hst ih =>
    obtain ⟨a, b, c, d, e⟩ := ih
    exact ⟨fifo_step hst a b, batch_step hst b, wake_step hst c, stop_step hst d, term_step hst e⟩

theorem Reach.invFifo {s} (h : Reach s) : InvFifo s := (reach_inv h).1
theorem Reach.invBatch {s} (h : Reach s) : InvBatch s := (reach_inv h).2.1
theorem Reach.invWake {s} (h : Reach s) : InvWake s := (reach_inv h).2.2.1
theorem Reach.invStop {s} (h : Reach s) : InvStop s := (reach_inv h).2.2.2.1
theorem Reach.invTerm {s} (h : Reach s) : InvTerm s := (reach_inv h).2.2.2.2

theorem executed_prefix {s} (h : Reach s) : s.executed <+: s.accepted := by
  rw [h.invFifo, List.append_assoc]
  exact List.prefix_append _ _

theorem refused_never_executed {s} (h : Reach s) : ∀ f ∈ s.refused, f ∉ s.executed :=
  fun f hf hex => h.invTerm.refused f hf ((executed_prefix h).subset hex)

theorem drained {s} (h : Reach s) (ht : s.terminated = true) (hl : s.lpc = .idle) : s.aux = [] ∧ s.batch = [] := by
  refine ⟨(h.invTerm.terminated ht).2.resolve_left (by simp [hl]), Classical.byContradiction fun hne => ?_⟩
  rcases h.invBatch hne with ⟨k, hk⟩ | hk <;> simp [hl] at hk

theorem terminate_drains {s} (h : Reach s) (ht : s.terminated = true) (hl : s.lpc = .idle) :
    s.executed = s.accepted := by
  obtain ⟨ha, hb⟩ := drained h ht hl
  rw [h.invFifo, ha, hb, List.append_nil, List.append_nil]

theorem no_lost_wakeup {s} (h : Reach s) (hsel : s.lpc = .sel) (hq : s.aux ≠ []) : s.token = true ∨ 0 < s.pend := by
  rcases h.invWake hq with h1 | h1 | h1 | ⟨k, h1⟩ | h1 | h1 <;> simp_all

theorem waiting_facts {s : St} (hr : Reach s) (hw : s.cpc = .waiting) : s.canRun = false ∧ s.running = true :=
  hr.invStop.stopping (by simp [hw])

theorem stop_is_served {s} (h : Reach s) (hw : s.cpc = .waiting) :
    s.canRun = false ∧ (s.token = true ∨ s.lpc = .swap true ∨ s.lpc = .exec true ∨ s.lpc = .chk ∨ s.lpc = .exit) :=
  ⟨(waiting_facts h hw).1, h.invStop.waiting hw⟩

theorem running_lpc {s : St} (hr : Reach s) (hrun : s.running = true) :
    (∃ k, s.lpc = .swap k) ∨ (∃ k, s.lpc = .exec k) ∨ s.lpc = .sel ∨ s.lpc = .chk ∨ s.lpc = .exit := by
  have h1 := hr.invStop.stopped_iff
  cases hl : s.lpc <;> simp_all

theorem executes_only_running_or_terminate {s t} (hr : Reach s) (h : Step s t) (hx : t.executed ≠ s.executed) :
    s.running = true ∨ s.lpc = .texec := by
  cases h
  case execOne k _ _ hk _ =>
    cases hrun : s.running
    · simpa [hk] using hr.invStop.stopped_iff.mpr hrun
    · exact .inl rfl
  case termExecOne hk _ => exact .inr hk
  all_goals exact absurd rfl hx

/-- for the labels of `stepQ` whose guard is an `if`: applies to `h : stepQ s .wake = some t` as it stands (unification
    unfolds `stepQ`, cheaper than `simp [stepQ]` first).  The other five labels match on `lpc` and `batch`. -/
theorem stepQ_eq_some {p : Prop} [Decidable p] {r t : St} (h : (if p then some r else none) = some t) : p ∧ r = t := by
  obtain ⟨hp, hr⟩ := Option.ite_none_right_eq_some.mp h
  exact ⟨hp, Option.some.inj hr⟩

theorem stepQ_sound (s t : St) (l : Lbl) (h : stepQ s l = some t) : Step s t := by
  cases l
  case swap => simp only [stepQ] at h; split at h <;> cases h; next k hk => exact .swap s k hk
  case execOne => simp only [stepQ] at h; split at h <;> cases h; next k f rest hl hb => exact .execOne s k f rest hl hb
  case execDone => simp only [stepQ] at h; split at h <;> cases h; next k hl hb => exact .execDone s k hl hb
  case termExecOne =>
    simp only [stepQ] at h; split at h <;> cases h; next f rest hl hb => exact .termExecOne s f rest hl hb
  case termExecDone => simp only [stepQ] at h; split at h <;> cases h; next hl hb => exact .termExecDone s hl hb
  all_goals obtain ⟨hg, rfl⟩ := stepQ_eq_some h
  case enqueue f => exact .enqueue s f hg.1 hg.2
  case refuse f => exact .refuse s f hg.1 hg.2
  case wake => exact .wake s hg
  case start => exact .start s hg.1 hg.2.1 hg.2.2
  case quiesce => exact .quiesce s hg
  case takeToken => exact .takeToken s hg.1 hg.2
  case chk => exact .chk s hg
  case exit => exact .exit s hg.1 hg.2
  case stopStore => exact .stopStore s hg.1 hg.2
  case stopWake => exact .stopWake s hg
  case snwStore => exact .snwStore s hg.1 hg.2
  case termFlag => exact .termFlag s hg.1 hg.2.1 hg.2.2
  case termSwap => exact .termSwap s hg

theorem stepQ_terminated {s t : St} {l : Lbl} (h : stepQ s l = some t) :
    t.terminated = (match l with | .start => false | .termFlag => true | _ => s.terminated) := by
  cases l
  case swap | execOne | execDone | termExecOne | termExecDone =>
    simp only [stepQ] at h
    split at h <;> cases h
    rfl
  all_goals
    obtain ⟨-, rfl⟩ := stepQ_eq_some h
    rfl

theorem stepQ_sel_stays {s t : St} {l : Lbl} (h : stepQ s l = some t) (hsel : s.lpc = .sel)
    (h1 : l ≠ .quiesce) (h2 : l ≠ .takeToken) : t.lpc = .sel := by
  cases l
  case quiesce => exact absurd rfl h1
  case takeToken => exact absurd rfl h2
  case swap | execOne | execDone | termExecOne | termExecDone => simp [stepQ, hsel] at h
  all_goals obtain ⟨hg, rfl⟩ := stepQ_eq_some h
  case start | chk | exit | termFlag | termSwap => simp [hsel] at hg
  all_goals exact hsel

def runLabels (s : St) : List Lbl → Option St
  | [] => some s
  | l :: ls => (stepQ s l).bind fun t => runLabels t ls

theorem runLabels_cons {s t : St} {l : Lbl} {ls : List Lbl} :
    runLabels s (l :: ls) = some t ↔ ∃ u, stepQ s l = some u ∧ runLabels u ls = some t :=
  Option.bind_eq_some_iff

theorem runLabels_reach (s t : St) (ls : List Lbl) (hs : Reach s) (h : runLabels s ls = some t) : Reach t := by
  induction ls generalizing s with
  | nil => cases h; exact hs
  | cons l ls ih =>
    obtain ⟨u, hq, h⟩ := runLabels_cons.mp h
    exact ih u (.step hs (stepQ_sound s u l hq)) h

/-- the form in which the examples exhibit a reachable state -/
theorem exists_reach {P : St → Prop} (ls : List Lbl) (h : ∃ s, runLabels init ls = some s ∧ P s) :
    ∃ s, Reach s ∧ P s :=
  let ⟨s, h1, h2⟩ := h
  ⟨s, runLabels_reach init s ls .init h1, h2⟩

end GN.EventLoop.Queue
