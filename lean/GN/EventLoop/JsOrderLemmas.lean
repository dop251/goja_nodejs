import GN.EventLoop.JsOrder

/-!
# The timer-free model satisfies the callback-order specification   [C18]

Main result (stated in `GN/Props/C18.lean`, `model_meets_partial_order`): `Complete p fuel → oracle (runProgram p fuel) = .ok ()`
for EVERY program `p` (no `timerFree` hypothesis is needed: `runBody` ignores `st`/`si`) and every `fuel`.

The fuel condition.  `Complete p fuel` says that no drain loop of the run was cut short by the fuel: the main
`drainMicro`, every `drainMicro` that follows an immediate inside `drainImm`, and `drainImm` itself.  It is STRONGER
than "both queues are empty at the end" (`CompleteWeak`), and has to be (`completeWeak_insufficient`): an intermediate
`drainMicro` can run out of fuel, an immediate begin while a promise reaction is still queued, and a later
`drainMicro` (with its own fuel) empty the queue.  That is an artefact of the fuel, not of the semantics: once
`Complete p fuel` holds, any larger fuel gives the same log and is complete too (`C18.more_fuel_same_log`).

The simulation.  An invariant `Inv run s o` between a model state `s` (with its log so far) and the oracle state
`o` obtained by folding `oStep` over `s.log`.  Every run is a sequence of steps of a few kinds (a body logs, throws,
schedules a reaction or an immediate, clears a handle; an instance ends; a reaction or an immediate is popped and
begins; a cancelled immediate is popped and skipped), each with its lemma, placed before the loop that takes it.
At the end `Inv` and the empty queues give the end condition of `oracle`.
-/

namespace GN.EventLoop.JsOrder

/-- `drainImm p fuel s` is not cut short by the fuel, and neither is any `drainMicro` it calls (mirrors the
    recursion of `drainImm`) -/
def ImmComplete (p : Prog) : Nat → St → Prop
  | 0, s => s.imm = []
  | fuel + 1, s =>
    match s.imm with
    | [] => True
    | (id, k) :: rest =>
      let s' : St := { s with imm := rest }
      if s'.cancelled.contains id then ImmComplete p fuel s'
      else (drainMicro p fuel (runInst p id k 'i' s')).micro = [] ∧
           ImmComplete p fuel (drainMicro p fuel (runInst p id k 'i' s'))

/-- no drain loop of the run was cut short by the fuel -/
def Complete (p : Prog) (fuel : Nat) : Prop :=
  let s0 : St := ({ next := 2 } : St).emit (.s 'm' 1 0 0)
  let s1 := drainMicro p fuel (runInst p 1 0 'm' s0)
  s1.micro = [] ∧ ImmComplete p fuel s1

def immCompleteB (p : Prog) : Nat → St → Bool
  | 0, s => s.imm.isEmpty
  | fuel + 1, s =>
    match s.imm with
    | [] => true
    | (id, k) :: rest =>
      let s' : St := { s with imm := rest }
      if s'.cancelled.contains id then immCompleteB p fuel s'
      else (drainMicro p fuel (runInst p id k 'i' s')).micro.isEmpty &&
           immCompleteB p fuel (drainMicro p fuel (runInst p id k 'i' s'))

/-- what the driver (`GN/Driver/C18.lean`) and `decide` evaluate for `Complete` -/
def completeB (p : Prog) (fuel : Nat) : Bool :=
  let s0 : St := ({ next := 2 } : St).emit (.s 'm' 1 0 0)
  let s1 := drainMicro p fuel (runInst p 1 0 'm' s0)
  s1.micro.isEmpty && immCompleteB p fuel s1

/- `drainImm`, `ImmComplete` and `immCompleteB` recurse alike, so a fact about them goes by the cases of the loop
   (`fun_induction`): out of fuel; queue empty; head cancelled; head runs.  The last two name the popped state
   `s'` by a `let`, which `simp only` sees through only when `s'` is among its lemmas. -/

theorem immCompleteB_iff (p : Prog) (fuel : Nat) (s : St) : immCompleteB p fuel s = true ↔ ImmComplete p fuel s := by
  fun_induction immCompleteB p fuel s with
  | case1 s => exact List.isEmpty_iff
  | case2 n s himm => simp only [ImmComplete, himm]
  | case3 n s id k rest himm s' hcan ih => simp only [ImmComplete, himm, if_pos hcan, ih, s']
  | case4 n s id k rest himm s' hcan ih =>
    simp only [ImmComplete, himm, if_neg hcan, Bool.and_eq_true, List.isEmpty_iff, ih, s']

theorem completeB_iff (p : Prog) (fuel : Nat) : completeB p fuel = true ↔ Complete p fuel := by
  simp only [completeB, Complete, Bool.and_eq_true, List.isEmpty_iff, immCompleteB_iff]

instance (p : Prog) (fuel : Nat) (s : St) : Decidable (ImmComplete p fuel s) :=
  decidable_of_iff _ (immCompleteB_iff p fuel s)

instance (p : Prog) (fuel : Nat) : Decidable (Complete p fuel) :=
  decidable_of_iff _ (completeB_iff p fuel)

/-- "both queues are empty at the end": NOT sufficient for the oracle (`completeWeak_insufficient`) -/
def CompleteWeak (p : Prog) (fuel : Nat) : Prop :=
  let s0 : St := ({ next := 2 } : St).emit (.s 'm' 1 0 0)
  let s := drainImm p fuel (drainMicro p fuel (runInst p 1 0 'm' s0))
  s.micro = [] ∧ s.imm = []

theorem drainImm_complete {p : Prog} {fuel : Nat} {s : St} :
    s.micro = [] → ImmComplete p fuel s → (drainImm p fuel s).micro = [] ∧ (drainImm p fuel s).imm = [] := by
  fun_induction drainImm p fuel s with
  | case1 s => exact And.intro
  | case2 n s himm => exact fun hm _ => ⟨hm, himm⟩
  | case3 n s id k rest himm s' hcan ih => simp only [ImmComplete, himm, if_pos hcan, s']; exact ih
  | case4 n s id k rest himm s' hcan ih =>
    simp only [ImmComplete, himm, if_neg hcan, s']; exact fun _ h => ih h.1 h.2

theorem Complete.weak {p : Prog} {fuel : Nat} (hc : Complete p fuel) : CompleteWeak p fuel :=
  drainImm_complete hc.1 hc.2

/-- main schedules three reactions and one immediate; with fuel 2 the main `drainMicro` stops with one reaction
    queued, the immediate begins (violation), then the inner `drainMicro` runs the last reaction -/
def weakCex : Prog := [[.thenDo 1, .thenDo 1, .thenDo 1, .imm 1 0], []]

/-- a fuel artefact: with fuel ≥ 3 the same program is `Complete` and accepted -/
theorem completeWeak_insufficient :
    CompleteWeak weakCex 2 ∧ oracle (runProgram weakCex 2) ≠ .ok () :=
  ⟨⟨by decide, by decide⟩, fun h => absurd (congrArg Except.toBool h) (by decide)⟩

theorem drainMicro_more_fuel {p : Prog} {fuel : Nat} {s : St} (n : Nat) :
    (drainMicro p fuel s).micro = [] → drainMicro p (fuel + n) s = drainMicro p fuel s := by
  fun_induction drainMicro p fuel s with
  | case1 s => intro h; cases n <;> simp [drainMicro, h]
  | case2 f s hm => intro _; simp only [Nat.add_right_comm f 1 n, drainMicro, hm]
  | case3 f s id k rest hm ih => intro h; simp only [Nat.add_right_comm f 1 n, drainMicro, hm]; exact ih h

theorem drainImm_more_fuel {p : Prog} {fuel : Nat} {s : St} (n : Nat) :
    ImmComplete p fuel s → drainImm p (fuel + n) s = drainImm p fuel s ∧ ImmComplete p (fuel + n) s := by
  fun_induction drainImm p fuel s with
  | case1 s => intro (h : s.imm = []); cases n <;> simp [drainImm, ImmComplete, h]
  | case2 f s himm => intro _; simp only [Nat.add_right_comm f 1 n, drainImm, ImmComplete, himm, and_self]
  | case3 f s id k rest himm s' hcan ih =>
    simp only [Nat.add_right_comm f 1 n, drainImm, ImmComplete, himm, if_pos hcan, s']
    exact ih
  | case4 f s id k rest himm s' hcan ih =>
    simp only [Nat.add_right_comm f 1 n, drainImm, ImmComplete, himm, if_neg hcan, s']
    intro h
    rw [drainMicro_more_fuel n h.1]
    exact ⟨(ih h.2).1, h.1, (ih h.2).2⟩

theorem oStep_s (o : OSt) (k : Char) (id a b : Nat) :
    oStep o (.s k id a b) = .ok { o with sched := (id, k) :: o.sched,
                                         pendingP := (if (k == 'p') then o.pendingP ++ [id] else o.pendingP) } := rfl

theorem oStep_b {o : OSt} {id : Nat} {k : Char}
    (h1 : o.running = none)
    (h2 : isMacro k = true → o.pendingP = [])
    (h3 : id ∉ o.begun) (h4 : id ∉ o.cleared) (h5 : k = 'i' → o.lastImm ≤ id)
    (h6 : id ∈ o.sched.map (·.1)) :
    oStep o (.b id k) = .ok { o with running := some id, begun := id :: o.begun,
                                     pendingP := o.pendingP.filter (· != id),
                                     lastImm := if k == 'i' then id else o.lastImm } := by
  -- three of `oStep`'s six guards in the form it tests them (`h1`, `h3`, `h4` serve as they stand)
  have h2' : (isMacro k && !o.pendingP.isEmpty) = false :=
    Bool.and_eq_false_imp.mpr fun hm => by rw [h2 hm]; rfl
  have h5' : (k == 'i' && decide (id < o.lastImm)) = false :=
    Bool.and_eq_false_imp.mpr fun hk => decide_eq_false (Nat.not_lt.mpr (h5 (beq_iff_eq.mp hk)))
  have h6' : o.sched.any (·.1 == id) = true := by
    obtain ⟨q, hq, e⟩ := List.mem_map.mp h6
    exact List.any_eq_true.mpr ⟨q, hq, beq_iff_eq.mpr e⟩
  simp only [oStep, h1, h2', h3, h4, h5', h6', Option.isSome_none, List.contains_eq_mem, decide_false,
    Bool.and_false, Bool.not_true, Bool.false_eq_true, if_false]
  rfl

theorem oStep_l {o : OSt} {id : Nat} (h : o.running = some id) : oStep o (.l id) = .ok o := by
  simp [oStep, h]; rfl

theorem oStep_x {o : OSt} {id : Nat} (h : o.running = some id) : oStep o (.x id) = .ok o := by
  simp [oStep, h]; rfl

theorem oStep_c (o : OSt) (id : Nat) :
    oStep o (.c id) = .ok { o with cleared :=
      if (o.begun.contains id && !(o.sched.any fun p => p.1 == id && p.2 == 'v')) then o.cleared
      else id :: o.cleared } := rfl

theorem oStep_e {o : OSt} {id : Nat} (h : o.running = some id) :
    oStep o (.e id) = .ok { o with running := none } := by
  simp [oStep, h]; rfl

/-- `run` is the callback instance currently executing -/
structure Inv (run : Option Nat) (s : St) (o : OSt) : Prop where
  fold : s.log.foldlM oStep {} = .ok o
  running : o.running = run
  pend : o.pendingP = s.micro.map (·.1)
  /-- ids are allocated increasingly, so both queues are sorted by id (hence duplicate-free) -/
  msorted : (s.micro.map (·.1)).Pairwise (· < ·)
  isorted : (s.imm.map (·.1)).Pairwise (· < ·)
  /-- a queued reaction is never cancelled because no handle points to it (`hand`) -/
  mq : ∀ id ∈ s.micro.map (·.1), id < s.next ∧ id ∉ o.begun ∧ id ∈ o.sched.map (·.1) ∧ id ∉ s.cancelled
        ∧ id ∉ s.imm.map (·.1)
  iq : ∀ id ∈ s.imm.map (·.1), id < s.next ∧ id ∉ o.begun ∧ id ∈ o.sched.map (·.1) ∧ o.lastImm < id
  lastLt : o.lastImm < s.next
  begunLt : ∀ id ∈ o.begun, id < s.next
  cancLt : ∀ id ∈ s.cancelled, id < s.next
  /-- `cleared ⊆ cancelled ⊆ begun ∪ cleared`: the model skips at least what the oracle forbids, and whatever the
      model skips the oracle's end condition excuses -/
  clearedSub : ∀ id ∈ o.cleared, id ∈ s.cancelled
  cancSub : ∀ id ∈ s.cancelled, id ∈ o.begun ∨ id ∈ o.cleared
  hand : ∀ q ∈ s.handles, q.2 < s.next ∧ q.2 ∉ s.micro.map (·.1)
  /-- with both queues empty this is the end condition of the oracle -/
  schedDone : ∀ q ∈ o.sched, q.1 ∈ o.begun ∨ q.1 ∈ o.cleared ∨ q.1 ∈ s.micro.map (·.1) ∨ q.1 ∈ s.imm.map (·.1)

/-! Each step lemma is a structure instance over the hypothesis: a field that is not listed is unchanged, a listed
field says from which fields of the hypothesis it follows.  The six steps that change a queue or a list are the
smallest that keep `Inv`: an id must be allocated, scheduled and queued at once (`schedDone`; its freshness is
`… < s.next` before the bump), and popped and begun (or excused by `cancSub`) at once (`schedDone`, `iq`). -/

section preservation
open List (mem_cons mem_cons_self mem_cons_of_mem)

theorem Inv.fold_emit {run s o} (h : Inv run s o) {e : Ev} {o' : OSt} (hs : oStep o e = .ok o') :
    (s.log ++ [e]).foldlM oStep {} = .ok o' := by
  simp only [List.foldlM_append, h.fold, List.foldlM_cons, List.foldlM_nil, bind_pure]
  exact hs

theorem Inv.emit {run s o} (h : Inv run s o) {e : Ev} (hs : oStep o e = .ok o) : Inv run (s.emit e) o :=
  { h with fold := h.fold_emit hs }

theorem mem_snoc_map {α} {f : α → Nat} {l : List α} {a : α} {x : Nat} :
    x ∈ (l ++ [a]).map f ↔ x ∈ l.map f ∨ x = f a := by
  simp

theorem pairwise_snoc_map {α} {f : α → Nat} {l : List α} {a : α} (hl : (l.map f).Pairwise (· < ·))
    (ha : ∀ x ∈ l.map f, x < f a) : ((l ++ [a]).map f).Pairwise (· < ·) := by
  simp only [List.map_append, List.pairwise_append, List.map_cons, List.map_nil, List.mem_singleton]
  exact ⟨hl, List.pairwise_singleton _ _, fun x hx y hy => hy ▸ ha x hx⟩

theorem fresh {l : List Nat} {n : Nat} (h : ∀ x ∈ l, x < n) : n ∉ l :=
  fun hn => Nat.lt_irrefl n (h n hn)

theorem inv_then {me s o} (k : Nat) (h : Inv (some me) s o) :
    Inv (some me) (({ s with next := s.next + 1, micro := s.micro ++ [(s.next, k)] } : St).emit (.s 'p' s.next me k))
      { o with sched := (s.next, 'p') :: o.sched, pendingP := o.pendingP ++ [s.next] } :=
  { h with
    fold := h.fold_emit rfl
    pend := by simp [St.emit, h.pend]
    msorted := pairwise_snoc_map h.msorted fun x hx => (h.mq x hx).1
    mq := fun id hid => by
      rcases mem_snoc_map.mp hid with hid | rfl
      · obtain ⟨a, b, c, d⟩ := h.mq id hid
        exact ⟨Nat.lt_succ_of_lt a, b, mem_cons_of_mem _ c, d⟩
      · exact ⟨Nat.lt_succ_self _, fresh h.begunLt, mem_cons_self, fresh h.cancLt, fresh fun x hx => (h.iq x hx).1⟩
    iq := fun id hid => by
      obtain ⟨a, b, c, d⟩ := h.iq id hid
      exact ⟨Nat.lt_succ_of_lt a, b, mem_cons_of_mem _ c, d⟩
    lastLt := Nat.lt_succ_of_lt h.lastLt
    begunLt := fun id hid => Nat.lt_succ_of_lt (h.begunLt id hid)
    cancLt := fun id hid => Nat.lt_succ_of_lt (h.cancLt id hid)
    hand := fun q hq =>
      have ⟨a, b⟩ := h.hand q hq
      ⟨Nat.lt_succ_of_lt a, fun hm => (mem_snoc_map.mp hm).elim b (Nat.ne_of_lt a)⟩
    schedDone := List.forall_mem_cons.mpr ⟨.inr (.inr (.inl (mem_snoc_map.mpr (.inr rfl)))), fun q hq =>
      (h.schedDone q hq).imp_right (.imp_right (.imp_left fun hm => mem_snoc_map.mpr (.inl hm)))⟩ }

theorem inv_imm {me s o} (k hd : Nat) (h : Inv (some me) s o) :
    Inv (some me) (({ s with next := s.next + 1, imm := s.imm ++ [(s.next, k)],
                             handles := (hd, s.next) :: s.handles.filter (·.1 != hd) } : St).emit (.s 'i' s.next me k))
      { o with sched := (s.next, 'i') :: o.sched } :=
  { h with
    fold := h.fold_emit rfl
    isorted := pairwise_snoc_map h.isorted fun x hx => (h.iq x hx).1
    mq := fun id hid => by
      obtain ⟨a, b, c, d, e⟩ := h.mq id hid
      exact ⟨Nat.lt_succ_of_lt a, b, mem_cons_of_mem _ c, d, fun hi => (mem_snoc_map.mp hi).elim e (Nat.ne_of_lt a)⟩
    iq := fun id hid => by
      rcases mem_snoc_map.mp hid with hid | rfl
      · obtain ⟨a, b, c, d⟩ := h.iq id hid
        exact ⟨Nat.lt_succ_of_lt a, b, mem_cons_of_mem _ c, d⟩
      · exact ⟨Nat.lt_succ_self _, fresh h.begunLt, mem_cons_self, h.lastLt⟩
    lastLt := Nat.lt_succ_of_lt h.lastLt
    begunLt := fun id hid => Nat.lt_succ_of_lt (h.begunLt id hid)
    cancLt := fun id hid => Nat.lt_succ_of_lt (h.cancLt id hid)
    hand := List.forall_mem_cons.mpr ⟨⟨Nat.lt_succ_self _, fresh fun x hx => (h.mq x hx).1⟩, fun q hq =>
      (h.hand q (List.mem_filter.mp hq).1).imp_left Nat.lt_succ_of_lt⟩
    schedDone := List.forall_mem_cons.mpr ⟨.inr (.inr (.inr (mem_snoc_map.mpr (.inr rfl)))), fun q hq =>
      (h.schedDone q hq).imp_right (.imp_right (.imp_right fun hm => mem_snoc_map.mpr (.inl hm)))⟩ }

theorem mem_ite_cons {α} {c : Prop} [Decidable c] {a x : α} {l : List α} :
    x ∈ (if c then l else a :: l) ↔ (¬c ∧ x = a) ∨ x ∈ l := by
  split <;> simp [*]

/-- the oracle records the clear unless the instance has begun and is no interval -/
theorem inv_clr {me s o} {q : Nat × Nat} (hq : q ∈ s.handles) (h : Inv (some me) s o) :
    Inv (some me) (({ s with cancelled := q.2 :: s.cancelled } : St).emit (.c q.2))
      { o with cleared := if (o.begun.contains q.2 && !(o.sched.any fun p => p.1 == q.2 && p.2 == 'v')) then o.cleared
                          else q.2 :: o.cleared } :=
  { h with
    fold := h.fold_emit rfl
    mq := fun id hid => by
      obtain ⟨a, b, c, d, e⟩ := h.mq id hid
      exact ⟨a, b, c, List.not_mem_cons_of_ne_of_not_mem (fun e' => (h.hand q hq).2 (e' ▸ hid)) d, e⟩
    cancLt := List.forall_mem_cons.mpr ⟨(h.hand q hq).1, h.cancLt⟩
    clearedSub := fun id hid => mem_cons.mpr ((mem_ite_cons.mp hid).imp (·.2) (h.clearedSub id))
    cancSub := fun id hid => by
      rcases mem_cons.mp hid with rfl | hc
      · by_cases hb : q.2 ∈ o.begun
        · exact .inl hb
        · exact .inr (mem_ite_cons.mpr (.inl ⟨by simp [hb], rfl⟩))
      · exact (h.cancSub id hc).imp_right fun hx => mem_ite_cons.mpr (.inr hx)
    schedDone := fun p hp => (h.schedDone p hp).imp_right (.imp_left fun hx => mem_ite_cons.mpr (.inr hx)) }

theorem inv_runBody (p : Prog) {me : Nat} (acts : List Act) {s o} (h : Inv (some me) s o) :
    ∃ o', Inv (some me) (runBody p me acts s) o' := by
  induction acts generalizing s o with
  | nil => exact ⟨o, h⟩
  | cons a rest ih =>
    cases a with
    | log => exact ih (h.emit (oStep_l h.running))
    | thenDo k => exact ih (inv_then k h)
    | imm k hd => exact ih (inv_imm k hd h)
    | st k d hd => exact ih h
    | si k d n hd => exact ih h
    | clr hd =>
      rw [runBody]
      split
      · next x id hf => exact ih (inv_clr (List.mem_of_find?_eq_some hf) h)
      · exact ih h
    | throw => exact ⟨_, h.emit (oStep_x h.running)⟩

theorem inv_end {id s o} (h : Inv (some id) s o) : Inv none (s.emit (.e id)) { o with running := none } :=
  { h with fold := h.fold_emit (oStep_e h.running), running := rfl }

theorem inv_runInst (p : Prog) {s o} {id : Nat} (k : Nat) {kind : Char} (h : Inv (some id) (s.emit (.b id kind)) o) :
    ∃ o', Inv none (runInst p id k kind s) o' :=
  have ⟨_, h2⟩ := inv_runBody p (p.getD k []) h
  ⟨_, inv_end h2⟩

theorem filter_ne_head {id : Nat} {l : List Nat} (h : ∀ x ∈ l, id < x) :
    (id :: l).filter (· != id) = l := by
  simp only [List.filter_cons, bne_self_eq_false, Bool.false_eq_true, if_false]
  apply List.filter_eq_self.mpr
  intro a ha
  have := h a ha
  simp; omega

theorem inv_begin_p {s o} {id k : Nat} {rest : List (Nat × Nat)} (hm : s.micro = (id, k) :: rest)
    (h : Inv none s o) :
    Inv (some id) (({ s with micro := rest } : St).emit (.b id 'p'))
      { o with running := some id, begun := id :: o.begun, pendingP := o.pendingP.filter (· != id) } := by
  -- with `s` taken apart and `hm` substituted the queue is a literal `cons`, and `mem_cons…`, `pairwise_cons` apply
  -- to `h`'s fields as they stand (so too in `inv_skip`, `inv_begin_i`)
  cases s; cases hm
  obtain ⟨lt, nb, sc, nc, ni⟩ := h.mq id mem_cons_self
  obtain ⟨hd, srt⟩ := List.pairwise_cons.mp h.msorted
  exact { h with
    fold := h.fold_emit (oStep_b h.running nofun nb (fun hc => nc (h.clearedSub _ hc)) nofun sc)
    running := rfl
    pend := h.pend ▸ filter_ne_head hd
    msorted := srt
    mq := fun x hx => by
      obtain ⟨a, b, c, d, e⟩ := h.mq x (mem_cons_of_mem _ hx)
      exact ⟨a, List.not_mem_cons_of_ne_of_not_mem (Nat.ne_of_gt (hd x hx)) b, c, d, e⟩
    iq := fun x hx => by
      obtain ⟨a, b, c, d⟩ := h.iq x hx
      exact ⟨a, List.not_mem_cons_of_ne_of_not_mem (fun e' => ni (e' ▸ hx)) b, c, d⟩
    begunLt := List.forall_mem_cons.mpr ⟨lt, h.begunLt⟩
    cancSub := fun x hx => (h.cancSub x hx).imp_left (mem_cons_of_mem _)
    hand := fun q hq => (h.hand q hq).imp_right fun b hx => b (mem_cons_of_mem _ hx)
    schedDone := fun q hq => by
      rcases h.schedDone q hq with a | a | a | a
      · exact .inl (mem_cons_of_mem _ a)
      · exact .inr (.inl a)
      · rcases mem_cons.mp a with e | a
        · exact .inl (e ▸ mem_cons_self)
        · exact .inr (.inr (.inl a))
      · exact .inr (.inr (.inr a)) }

theorem inv_drainMicro (p : Prog) (fuel : Nat) {s : St} :
    (∃ o, Inv none s o) → ∃ o, Inv none (drainMicro p fuel s) o := by
  fun_induction drainMicro p fuel s with
  | case1 s => exact id
  | case2 n s hm => exact id
  | case3 n s id k rest hm ih => exact fun ⟨_, h⟩ => ih (inv_runInst p k (inv_begin_p hm h))

theorem inv_skip {s o} {id k : Nat} {rest : List (Nat × Nat)} (hm : s.imm = (id, k) :: rest)
    (hc : s.cancelled.contains id = true) (h : Inv none s o) : Inv none ({ s with imm := rest } : St) o := by
  cases s; cases hm
  exact { h with
    isorted := (List.pairwise_cons.mp h.isorted).2
    mq := fun x hx => by
      obtain ⟨a, b, c, d, e⟩ := h.mq x hx
      exact ⟨a, b, c, d, fun hi => e (mem_cons_of_mem _ hi)⟩
    iq := fun x hx => h.iq x (mem_cons_of_mem _ hx)
    schedDone := fun q hq => by
      rcases h.schedDone q hq with a | a | a | a
      · exact .inl a
      · exact .inr (.inl a)
      · exact .inr (.inr (.inl a))
      · rcases mem_cons.mp a with e | a
        · exact e ▸ (h.cancSub id (List.contains_iff_mem.mp hc)).imp_right .inl
        · exact .inr (.inr (.inr a)) }

theorem inv_begin_i {s o} {id k : Nat} {rest : List (Nat × Nat)} (hm : s.imm = (id, k) :: rest)
    (hmic : s.micro = []) (hnc : ¬s.cancelled.contains id = true) (h : Inv none s o) :
    Inv (some id) (({ s with imm := rest } : St).emit (.b id 'i'))
      { o with running := some id, begun := id :: o.begun, lastImm := id } := by
  cases s; cases hm; cases hmic
  have hp : o.pendingP = [] := h.pend
  obtain ⟨lt, nb, sc, last⟩ := h.iq id mem_cons_self
  obtain ⟨hd, srt⟩ := List.pairwise_cons.mp h.isorted
  exact { h with
    fold := h.fold_emit (by
      rw [oStep_b h.running (fun _ => hp) nb (fun hc => hnc (List.contains_iff_mem.mpr (h.clearedSub _ hc)))
        (fun _ => Nat.le_of_lt last) sc, hp]; rfl)
    running := rfl
    isorted := srt
    mq := nofun
    iq := fun x hx => by
      obtain ⟨a, b, c, _⟩ := h.iq x (mem_cons_of_mem _ hx)
      exact ⟨a, List.not_mem_cons_of_ne_of_not_mem (Nat.ne_of_gt (hd x hx)) b, c, hd x hx⟩
    lastLt := lt
    begunLt := List.forall_mem_cons.mpr ⟨lt, h.begunLt⟩
    cancSub := fun x hx => (h.cancSub x hx).imp_left (mem_cons_of_mem _)
    schedDone := fun q hq => by
      rcases h.schedDone q hq with a | a | a | a
      · exact .inl (mem_cons_of_mem _ a)
      · exact .inr (.inl a)
      · exact .inr (.inr (.inl a))
      · rcases mem_cons.mp a with e | a
        · exact .inl (e ▸ mem_cons_self)
        · exact .inr (.inr (.inr a)) }

/-- an immediate may begin only when no reaction is queued; that the inner `drainMicro`s emptied their queue is
    what `ImmComplete` adds to "`drainImm` ended" -/
theorem inv_drainImm {p : Prog} {fuel : Nat} {s : St} :
    (∃ o, Inv none s o) → s.micro = [] → ImmComplete p fuel s → ∃ o, Inv none (drainImm p fuel s) o := by
  fun_induction drainImm p fuel s with
  | case1 s => exact fun h _ _ => h
  | case2 n s himm => exact fun h _ _ => h
  | case3 n s id k rest himm s' hcan ih =>
    simp only [ImmComplete, himm, if_pos hcan, s']
    exact fun ⟨_, h⟩ => ih ⟨_, inv_skip himm hcan h⟩
  | case4 n s id k rest himm s' hcan ih =>
    simp only [ImmComplete, himm, if_neg hcan, s']
    exact fun ⟨_, h⟩ hmic hc =>
      ih (inv_drainMicro p n (inv_runInst p k (inv_begin_i himm hmic hcan h))) hc.1 hc.2

end preservation

/-- `runProgram`'s start: instance 1 of callback 0, of kind `'m'` (the main script), has run; fresh ids start at 2 -/
theorem inv_init (p : Prog) :
    ∃ o, Inv none (runInst p 1 0 'm' (({ next := 2 } : St).emit (.s 'm' 1 0 0))) o :=
  inv_runInst p 0 (o := { running := some 1, sched := [(1, 'm')], begun := [1] }) <| by
    refine ⟨rfl, rfl, rfl, ?_, ?_, ?_, ?_, ?_, ?_, ?_, ?_, ?_, ?_, ?_⟩
    all_goals decide

theorem inv_final {s o} (h : Inv none s o) (hm : s.micro = []) (hi : s.imm = []) : oracle s.log = .ok () := by
  have hfind : o.sched.find? (fun p => !o.begun.contains p.1 && !o.cleared.contains p.1) = none :=
    List.find?_eq_none.mpr fun q hq => by
      have := h.schedDone q hq
      simp only [hm, hi, List.map_nil, List.not_mem_nil, or_false] at this
      rcases this with h | h <;> simp [h]
  simp only [oracle, h.fold]
  show (if o.running.isSome = true then _ else _) = _
  simp only [h.running, Option.isSome_none, Bool.false_eq_true, if_false, hfind]
  rfl

end GN.EventLoop.JsOrder
