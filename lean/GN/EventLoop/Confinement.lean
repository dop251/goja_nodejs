import GN.Generated.SharedAccess

/-!
# C17: which goroutine may touch which field of the loop, and the shared Registry

`Generated.elAccesses` is recomputed from eventloop.go on every run: every access to a field of `EventLoop`, with the
function it occurs in (function literals count as functions of their own: they run later), whether it writes, whether
it goes through sync/atomic, and which of the loop's mutexes are held.  Below: the reviewed assignment of functions to
goroutine roles, which roles can overlap in time, and the lockset argument as a decidable check over the table.

Last, the compile-once cache of the shared `Registry`: `getCompiledSource` as one atomic step (it holds the registry
mutex throughout), and the invariant of these steps from which "a file that compiles is fetched at most once" follows
for every sequence of requests (`getCompiled_inv`).
-/

namespace GN.EventLoop.Confinement
open GN GN.Generated

inductive Role where
  | init    -- construction, before the loop value is shared
  | loop    -- runs on the goroutine that executes the loop (run and everything it calls, queued closures, JS callbacks)
  | any     -- documented as callable from any goroutine
  | ctl     -- the one controlling goroutine: Start / Run / Stop, while the loop may be running
  | quiet   -- the controlling goroutine after its Stop() has returned (Terminate's body): the loop goroutine is out
  | side    -- a timer-side goroutine: the time.AfterFunc callback of a Timer, the `run` goroutine of an Interval
  deriving DecidableEq, Repr

open Role in
def roleTable : List (String × Role) := [
  ("NewEventLoop", init), ("EnableConsole$lit1", init), ("WithRegistry$lit1", init),
  ("EventLoop.run", loop), ("EventLoop.runAux", loop), ("EventLoop.schedule", loop), ("EventLoop.setTimeout", loop),
  ("EventLoop.setInterval", loop), ("EventLoop.setImmediate", loop), ("EventLoop.addImmediate", loop),
  ("EventLoop.newTimeout", loop), ("EventLoop.newInterval", loop),
  ("EventLoop.doTimeout", loop), ("EventLoop.doInterval", loop), ("EventLoop.doImmediate", loop),
  ("EventLoop.clearTimeout", loop), ("EventLoop.clearInterval", loop), ("EventLoop.clearImmediate", loop),
  ("EventLoop.jsClearTimeout", loop), ("EventLoop.jsClearInterval", loop), ("EventLoop.jsClearImmediate", loop),
  ("EventLoop.removeJob", loop),
  -- closures queued through addAuxJob / built for the loop: they run on the loop goroutine
  ("EventLoop.RunOnLoop$lit1", loop), ("EventLoop.SetTimeout$lit1", loop), ("EventLoop.SetTimeout$lit2", loop),
  ("EventLoop.SetInterval$lit1", loop), ("EventLoop.SetInterval$lit2", loop),
  ("EventLoop.ClearTimeout$lit1", loop), ("EventLoop.ClearInterval$lit1", loop),
  ("EventLoop.RunOnLoop", any), ("EventLoop.SetTimeout", any), ("EventLoop.SetInterval", any),
  ("EventLoop.ClearTimeout", any), ("EventLoop.ClearInterval", any), ("EventLoop.StopNoWait", any),
  ("EventLoop.addAuxJob", any), ("EventLoop.wakeup", any),
  ("EventLoop.Run", ctl), ("EventLoop.Start", ctl), ("EventLoop.StartInForeground", ctl), ("EventLoop.setRunning", ctl),
  ("EventLoop.Stop", ctl),
  ("EventLoop.Terminate", quiet)
]

def roleOf (fn : String) : Option Role := (roleTable.find? (·.1 == fn)).map (·.2)

/-- can code of these two roles run at the same time on different goroutines? -/
def conc : Role → Role → Bool
  | .init, _ | _, .init => false
  | .loop, .loop => false          -- one goroutine
  | .loop, .quiet | .quiet, .loop => false   -- Stop() has returned: the loop goroutine has left run (C07: `Queue.stop_is_served`)
  | .quiet, .quiet => false
  | .ctl, .ctl | .ctl, .quiet | .quiet, .ctl => false   -- one controlling goroutine
  | _, _ => true

/-- accesses ordered by the protocol rather than by a lock, with the theorem that orders them -/
def protocolOrdered : List (String × String) := [
  -- `return int(loop.jobCount)` in Stop(): read after the wait loop saw running = false under stopLock, which run()
  -- stores under stopLock after its last write to jobCount (C07: `Queue.stop_is_served`)
  ("EventLoop.Stop", "jobCount")
]

def protectedPair (a b : Access) : Bool := (a.atomic && b.atomic) || a.locks.any (fun l => b.locks.contains l)

def pairOK (a b : Access) : Bool :=
  a.field != b.field || !(a.write || b.write)
  || (match roleOf a.fn, roleOf b.fn with
      | some r1, some r2 => !conc r1 r2
      | _, _ => false)
  || protectedPair a b
  || protocolOrdered.contains (a.fn, a.field) || protocolOrdered.contains (b.fn, b.field)

def raceFree (t : List Access) : Bool := t.all fun a => t.all fun b => pairOK a b

open Role in
/-- roles for the table of accesses to fields of the job objects (Timer, Interval, Immediate): constructors work on an
object nobody else has yet -/
def jobRoleTable : List (String × Role) := [
  ("EventLoop.newTimeout", init), ("EventLoop.newInterval", init), ("EventLoop.addImmediate", init),
  ("Interval.run", side), ("Timer.start$lit1", side),
  ("Timer.start", loop), ("Interval.start", loop), ("Timer.doCancel", loop), ("Interval.doCancel", loop)
]

def jobRoleOf (fn : String) : Option Role :=
  match jobRoleTable.find? (·.1 == fn) with
  | some p => some p.2
  | none => roleOf fn

/-- `i.ticker` is written in `Interval.start` immediately before `go i.run(loop)`: the go statement orders the write
before everything the new goroutine does -/
def jobProtocolOrdered : List (String × String) := [("Interval.run", "ticker")]

def jobPairOK (a b : Access) : Bool :=
  a.field != b.field || !(a.write || b.write)
  || (match jobRoleOf a.fn, jobRoleOf b.fn with
      | some r1, some r2 => !conc r1 r2
      | _, _ => false)
  || protectedPair a b
  || jobProtocolOrdered.contains (a.fn, a.field) || jobProtocolOrdered.contains (b.fn, b.field)

def jobRaceFree (t : List Access) : Bool := t.all fun a => t.all fun b => jobPairOK a b

inductive Src where
  | ok | bad | missing
  deriving DecidableEq, Repr

structure Reg where
  compiled : List String := []
  loads : List String := []      -- the SourceLoader calls, in order
  deriving Repr

/-- `getCompiledSource(p)`; the whole body runs under the registry mutex, so requests from different runtimes are
serialised: an interleaving of runtimes is a sequence of these steps -/
def getCompiled (files : String → Src) (r : Reg) (p : String) : Reg :=
  if r.compiled.contains p then r
  else
    let r := { r with loads := r.loads ++ [p] }
    match files p with
    | .ok => { r with compiled := p :: r.compiled }
    | _ => r

def runRequests (files : String → Src) (ps : List String) : Reg := ps.foldl (getCompiled files) {}

/-- the second part makes the first inductive: a compiled file is not fetched again -/
def LoadedOnce (q : String) (r : Reg) : Prop := r.loads.count q ≤ 1 ∧ (q ∈ r.loads → q ∈ r.compiled)

theorem getCompiled_inv {files : String → Src} {r : Reg} {p q : String} (h : files q = .ok) (hinv : LoadedOnce q r) :
    LoadedOnce q (getCompiled files r p) := by
  unfold getCompiled
  by_cases hc : r.compiled.contains p = true
  · rw [if_pos hc]; exact hinv
  rw [if_neg hc]
  by_cases hpq : p = q
  · -- the first load of `q`: it was not compiled, so not loaded before; it compiles now
    subst hpq
    have hnl : p ∉ r.loads := fun hm => hc (List.contains_iff_mem.mpr (hinv.2 hm))
    simp [LoadedOnce, h, List.count_append, List.count_eq_zero_of_not_mem hnl]
  · have hqp : q ≠ p := fun e => hpq e.symm
    cases files p <;> simpa [LoadedOnce, List.count_append, hpq, hqp] using hinv

end GN.EventLoop.Confinement
