import GN.EventLoop.Queue
import GN.EventLoop.Ledger

/-!
# Event loop — progress theorems for the queue system and the job ledger   [C04, C05, C06, C07]

`GN.EventLoop.Queue` and `GN.EventLoop.Ledger` come with safety theorems only (invariants of every reachable
state).  This file adds the *progress* halves of the properties those systems are used for.  No fairness
assumption is made anywhere; the theorems are of three kinds:

* **bounded-work theorems** — along *every* path of the system (all interleavings with the other threads) the
  number of steps of one designated thread before a goal is reached is bounded by a measure of the start state;
* **never-stuck theorems** — until the goal is reached a step of the designated thread is enabled;
* **possibility theorems** — there is a path using only the designated thread's steps that reaches the goal.

Two literal readings of the informal progress clauses are **false** in the model and are refuted here by
kernel-checked counterexamples (`no_bound_independent_of_submissions`, and the `example`s after
`accepted_function_is_executed_by_loop_alone`); the theorems say what holds in their place.

What the model does not contain (and so these theorems do not speak about): the `jobChan` arm of the loop's
`select` is not a transition of `Queue` (timer deliveries are in `Ledger`), so "bounded number of loop steps"
counts the steps of `Queue`'s loop thread; that Go's `select` eventually picks the wake-up arm when both arms are
ready is outside the model.
-/

namespace GN.EventLoop.Progress

theorem countP_cons_toNat {α : Type} (p : α → Bool) (a : α) (l : List α) :
    (a :: l).countP p = (p a).toNat + l.countP p := by
  rw [List.countP_cons]
  cases p a <;> simp [Nat.add_comm]

section QueueProgress
open GN.EventLoop.Queue

/-- Which thread takes a step.  `loop`: the loop goroutine between `run.enter` and its exit.  `controller`: the
goroutine calling `Start`/`Run` (the `start` step), `Stop` and `Terminate`.  `other`: any other goroutine —
submitters (`RunOnLoop` = `enqueue`/`refuse`, then the owed token send `wake`) and callers of `StopNoWait`. -/
inductive Thread where
  | loop | controller | other
  deriving DecidableEq, Repr

def thread : Lbl → Thread
  | .swap | .execOne | .execDone | .quiesce | .takeToken | .chk | .exit => .loop
  | .start | .stopStore | .stopWake | .termFlag | .termSwap | .termExecOne | .termExecDone => .controller
  | .enqueue _ | .refuse _ | .wake | .snwStore => .other

def isLoop : Lbl → Bool
  | .swap | .execOne | .execDone | .quiesce | .takeToken | .chk | .exit => true
  | _ => false

theorem isLoop_iff_thread (l : Lbl) : isLoop l = true ↔ thread l = .loop := by cases l <;> simp [isLoop, thread]

/-- an accepted submission (`addAuxJob` appending under the lock) -/
def isEnqueue : Lbl → Bool
  | .enqueue _ => true
  | _ => false

/-- the loop's own control steps: every loop step except the execution of one submitted function (`execOne`) -/
def isControl : Lbl → Bool
  | .swap | .execDone | .quiesce | .takeToken | .chk | .exit => true
  | _ => false

/-- the steps of the loop's drain cycle: all loop steps except the two that leave the loop (`quiesce`, `exit`) -/
def isDrain : Lbl → Bool
  | .swap | .execOne | .execDone | .takeToken | .chk => true
  | _ => false

theorem isDrain_loop {l : Lbl} : isDrain l = true → isLoop l = true ∧ l ≠ .quiesce ∧ l ≠ .exit := by
  cases l <;> simp [isDrain, isLoop]

theorem isLoop_classes {l : Lbl} : isLoop l = true → isEnqueue l = false ∧ (l ≠ .execOne → isControl l = true) := by
  cases l <;> simp [isLoop, isEnqueue, isControl]

/-- **The Stop measure**: the exact number of loop steps (the final `exit` included) the loop still takes before it
releases a waiting `Stop`, if nobody submits anything any more and the loop does not leave early through
`quiesce`: the remaining control steps on the way `swap false → exec false → sel → swap true → exec true → chk →
exit → (exit step)`, plus one `execOne` for every function that is in the batch or will be swapped into it. -/
def stopMeasure (s : St) : Nat :=
  match s.lpc with
  | .exit => 1
  | .chk => 2
  | .exec true => 3 + s.batch.length
  | .swap true => 4 + s.aux.length
  | .sel => 5 + s.aux.length
  | .exec false => 6 + s.batch.length + s.aux.length
  | .swap false => 7 + s.aux.length
  | _ => 0

/-- the control part of the measure: the position of the loop on its way out, a number between 1 and 7 -/
def stopPhase (s : St) : Nat :=
  match s.lpc with
  | .exit => 1
  | .chk => 2
  | .exec true => 3
  | .swap true => 4
  | .sel => 5
  | .exec false => 6
  | .swap false => 7
  | _ => 0

/-- a lower bound on the number of loop steps before Stop is released that holds for every path (also for those
on which the loop leaves early through `quiesce` at the select: from there `quiesce`, `exit` are 2 steps, and the
positions before the select count down to that instead of to `stopMeasure`'s 5) -/
def stopLower (s : St) : Nat :=
  match s.lpc with
  | .exit => 1
  | .chk => 2
  | .exec true => 3 + s.batch.length
  | .swap true => 4 + s.aux.length
  | .sel => 2
  | .exec false => 3 + s.batch.length
  | .swap false => 4 + s.aux.length
  | _ => 0

/-- With `stepQ_sound`: the labelled paths accepted by `runLabels` are exactly the paths of `Step`, so the theorems
below, stated with labels so that steps can be attributed to threads, are about all paths of the transition system. -/
theorem stepQ_complete {s t : St} (h : Step s t) : ∃ l, stepQ s l = some t := by
  cases h with
  | enqueue f ht hf => exact ⟨.enqueue f, if_pos ⟨ht, hf⟩⟩
  | refuse f ht hf => exact ⟨.refuse f, if_pos ⟨ht, hf⟩⟩
  | wake h => exact ⟨.wake, if_pos h⟩
  | start h hc hl => exact ⟨.start, if_pos ⟨h, hc, hl⟩⟩
  | swap => exact ⟨.swap, by simp [stepQ, *]⟩
  | execOne => exact ⟨.execOne, by simp [stepQ, *]⟩
  | execDone => exact ⟨.execDone, by simp [stepQ, *]⟩
  | quiesce h => exact ⟨.quiesce, if_pos h⟩
  | takeToken h ht => exact ⟨.takeToken, if_pos ⟨h, ht⟩⟩
  | chk h => exact ⟨.chk, if_pos h⟩
  | exit h hl => exact ⟨.exit, if_pos ⟨h, hl⟩⟩
  | stopStore h hr => exact ⟨.stopStore, if_pos ⟨h, hr⟩⟩
  | stopWake h => exact ⟨.stopWake, if_pos h⟩
  | snwStore hr hc => exact ⟨.snwStore, if_pos ⟨hr, hc⟩⟩
  | termFlag h hc hl => exact ⟨.termFlag, if_pos ⟨h, hc, hl⟩⟩
  | termSwap h => exact ⟨.termSwap, if_pos h⟩
  | termExecOne => exact ⟨.termExecOne, by simp [stepQ, *]⟩
  | termExecDone => exact ⟨.termExecDone, by simp [stepQ, *]⟩

attribute [local simp] stopMeasure stopPhase stopLower isLoop isEnqueue isControl in
/-- The one-step lemma behind the theorems on Stop.
The four inequalities of the second case are what `stop_path` adds up along a path: a loop step pays one unit of
`stopMeasure` and an accepted submission lends one (the upper bound); no step but `quiesce` takes more than it pays
(the exact count); a control step pays one unit of `stopPhase`, which nobody raises (the bound by 7); and no step
takes more than one unit of `stopLower` (the lower bound on every path).
Reachability is not needed: the measures are defined at every position of the loop, and they are 0 (and stay 0) at
the positions of Terminate. -/
theorem waiting_step {s t : St} {l : Lbl} (hw : s.cpc = .waiting) (hcr : s.canRun = false) (h : stepQ s l = some t) :
    (l = .exit ∧ t.cpc = .out ∧ t.running = false ∧ s.lpc = .exit) ∨
    (l ≠ .exit ∧ t.cpc = .waiting ∧
      stopMeasure t + (isLoop l).toNat ≤ stopMeasure s + (isEnqueue l).toNat ∧
      (l ≠ .quiesce → stopMeasure s ≤ stopMeasure t + (isLoop l).toNat) ∧
      stopPhase t + (isControl l).toNat ≤ stopPhase s ∧
      stopLower s ≤ stopLower t + (isLoop l).toNat) := by
  cases l
  -- `k` in `swap k` / `exec k` says where on the way `swap false → … → exit` the loop is
  case termExecOne | termExecDone =>
    simp only [stepQ] at h
    split at h <;> cases h
    simp [*]
  case swap | execOne | execDone =>
    simp only [stepQ] at h
    split at h <;> cases h
    cases ‹Bool› <;> simp [*] <;> omega
  all_goals obtain ⟨hg, rfl⟩ := stepQ_eq_some h
  -- the controller is blocked: its steps need `cpc ≠ waiting`
  case start | termFlag | stopStore | stopWake => simp [hw] at hg
  -- the other threads leave `lpc`, `batch`, `aux` and `cpc` alone, except that `enqueue` lengthens `aux`
  case refuse | wake | snwStore =>
    exact .inr ⟨nofun, hw, Nat.le_refl _, fun _ => Nat.le_refl _, Nat.le_refl _, Nat.le_refl _⟩
  case enqueue =>
    rcases hl : s.lpc with _ | k | k | _ | _ | _ | _ | _
    case swap | exec => cases k <;> simp [hl, hw] <;> omega
    all_goals simp [hl, hw] <;> omega
  case termSwap => simp [hg, hw]
  case quiesce | takeToken =>
    simp [hg, hw]
    omega
  case chk | exit => simp [hg, hw, hcr]

def loopCount (ls : List Lbl) : Nat := ls.countP isLoop
def enqCount (ls : List Lbl) : Nat := ls.countP isEnqueue
def controlCount (ls : List Lbl) : Nat := ls.countP isControl

theorem waiting_measure_pos {s : St} (hr : Reach s) (hw : s.cpc = .waiting) :
    1 ≤ stopMeasure s ∧ 1 ≤ stopPhase s ∧ stopPhase s ≤ 7 := by
  rcases running_lpc hr (waiting_facts hr hw).2 with ⟨k, hl⟩ | ⟨k, hl⟩ | hl | hl | hl
  case inl | inr.inl => cases k <;> simp [stopMeasure, stopPhase, hl] <;> omega
  all_goals simp [stopMeasure, stopPhase, hl] <;> omega

/-- **(C07, per step, loop thread.)**  While Stop waits, a step of the loop thread is the `exit` that releases it
(`running` becomes false, so Stop's `cond.Wait` loop terminates), or it strictly decreases `stopMeasure` and, unless
it runs a submitted function, `stopPhase`. -/
theorem loop_step_decreases_measure {s t : St} {l : Lbl} (hr : Reach s) (hw : s.cpc = .waiting)
    (hl : isLoop l = true) (h : stepQ s l = some t) :
    (l = .exit ∧ t.cpc = .out ∧ t.running = false) ∨
    (t.cpc = .waiting ∧ stopMeasure t < stopMeasure s ∧ (l ≠ .execOne → stopPhase t < stopPhase s)) := by
  obtain ⟨he, hctl⟩ := isLoop_classes hl
  rcases waiting_step hw (waiting_facts hr hw).1 h with ⟨a, b, c, _⟩ | ⟨_, b, c, _, d, _⟩
  · exact .inl ⟨a, b, c⟩
  · simp only [hl, he, Bool.toNat_true, Bool.toNat_false] at c
    refine .inr ⟨b, by omega, fun hne => ?_⟩
    simp only [hctl hne, Bool.toNat_true] at d
    omega

/-- **(C07, per step, other threads.)**  Submitters and StopNoWait callers (the controller itself is blocked) keep
Stop waiting and raise neither measure — *except an accepted submission, which may raise `stopMeasure` by one*: the
loop has to run the new function if it is submitted before the loop's last queue swap
(`no_bound_independent_of_submissions`). -/
theorem other_step_bounded {s t : St} {l : Lbl} (hr : Reach s) (hw : s.cpc = .waiting)
    (hl : isLoop l = false) (h : stepQ s l = some t) :
    t.cpc = .waiting ∧ stopPhase t ≤ stopPhase s ∧ stopMeasure t ≤ stopMeasure s + (isEnqueue l).toNat := by
  rcases waiting_step hw (waiting_facts hr hw).1 h with ⟨a, _⟩ | ⟨_, b, c, _, d, _⟩
  · subst a; simp [isLoop] at hl
  · simp only [hl, Bool.toNat_false] at c
    exact ⟨b, by omega, by omega⟩

/-- Along the path `ls` from `s` the loop performs `exit` while Stop is still waiting; `running = false` after it is
the condition on which Stop's `for running { cond.Wait() }` returns.  (The model has no separate "Stop returns"
step: `exit` resets `cpc`.) -/
def StopReleased (s : St) (ls : List Lbl) : Prop :=
  ∃ pre post u v, ls = pre ++ Lbl.exit :: post ∧ Lbl.exit ∉ pre ∧ runLabels s pre = some u ∧
    u.cpc = .waiting ∧ u.lpc = .exit ∧ stepQ u .exit = some v ∧ v.cpc = .out ∧ v.running = false

/-- `waiting_step` added up along a path: `exit` is on it, or Stop still waits and the inequalities hold with its counts -/
theorem stop_path {s t : St} {ls : List Lbl} (hr : Reach s) (hw : s.cpc = .waiting) (h : runLabels s ls = some t) :
    StopReleased s ls ∨
    (t.cpc = .waiting ∧
      stopMeasure t + loopCount ls ≤ stopMeasure s + enqCount ls ∧
      (Lbl.quiesce ∉ ls → stopMeasure s ≤ stopMeasure t + loopCount ls) ∧
      stopPhase t + controlCount ls ≤ stopPhase s ∧
      stopLower s ≤ stopLower t + loopCount ls) := by
  induction ls generalizing s with
  | nil =>
    cases h
    simp [hw, loopCount, enqCount, controlCount]
  | cons l ls ih =>
    obtain ⟨u, hq, h⟩ := runLabels_cons.mp h
    rcases waiting_step hw (waiting_facts hr hw).1 hq with ⟨rfl, h1, h2, h3⟩ | ⟨hne, hwu, h1, h2, h3, h4⟩
    · exact .inl ⟨[], ls, s, u, rfl, List.not_mem_nil, rfl, hw, h3, hq, h1, h2⟩
    · have hne' : ¬ Lbl.exit = l := fun e => hne e.symm
      rcases ih (.step hr (stepQ_sound s u l hq)) hwu h with ⟨pre, post, u', v, e1, e2, e3, e4⟩ | ⟨a, b, c, d, e⟩
      · exact .inl ⟨l :: pre, post, u', v, by rw [e1]; rfl, by simp [hne', e2], runLabels_cons.mpr ⟨u, hq, e3⟩, e4⟩
      · simp only [loopCount, enqCount, controlCount, countP_cons_toNat] at *
        refine .inr ⟨a, by omega, fun hq' => ?_, by omega, by omega⟩
        simp only [List.mem_cons, not_or] at hq'
        have := h2 (fun e => hq'.1 e.symm)
        have := c hq'.2
        omega

theorem released_or_bounded {s t : St} {ls : List Lbl} (hr : Reach s) (hw : s.cpc = .waiting)
    (h : runLabels s ls = some t) :
    StopReleased s ls ∨ (loopCount ls < stopMeasure s + enqCount ls ∧ controlCount ls < stopPhase s) :=
  (stop_path hr hw h).imp_right fun ⟨a, b, _, d, _⟩ => by
    obtain ⟨p1, p2, _⟩ := waiting_measure_pos (runLabels_reach s t ls hr h) a
    exact ⟨by omega, by omega⟩

/-- **(C07) Stop() returns after a bounded number of loop steps, whatever the other goroutines do.**
On any path from a reachable state in which Stop waits — loop steps interleaved with arbitrarily many submissions
(accepted or refused), token sends, StopNoWait — once the loop thread has taken `stopMeasure s` steps, plus one for
every function *submitted on the path itself*, Stop has been released.  The allowance for submissions cannot be
dropped (`no_bound_independent_of_submissions`); for the loop's control steps it can
(`stop_returns_after_seven_control_steps`). -/
theorem stop_returns_after_bounded_loop_steps {s t : St} {ls : List Lbl} (hr : Reach s) (hw : s.cpc = .waiting)
    (h : runLabels s ls = some t) (hn : stopMeasure s + enqCount ls ≤ loopCount ls) : StopReleased s ls :=
  (released_or_bounded hr hw h).resolve_right fun hb => by omega

/-- non-vacuity: Stop is called while the loop is parked at its select with one function queued; three more are
submitted while the loop is on its way out, two of them before its last swap.  `stopMeasure = 6`, and after 8 loop
steps Stop has been released. -/
example : ∃ s t, Reach s ∧ s.cpc = .waiting ∧ stopMeasure s = 6 ∧
    runLabels s [.enqueue 2, .takeToken, .enqueue 3, .wake, .swap, .execOne, .execOne, .execOne, .enqueue 4,
                 .execDone, .chk, .exit] = some t ∧ t.cpc = .out ∧ t.running = false ∧ t.executed = [1, 2, 3] :=
  ⟨_, _, runLabels_reach init _ [.start, .swap, .execDone, .enqueue 1, .stopStore, .stopWake] .init rfl,
    rfl, rfl, rfl, rfl, rfl, rfl⟩

theorem stop_returns_after_phase_control_steps {s t : St} {ls : List Lbl} (hr : Reach s) (hw : s.cpc = .waiting)
    (h : runLabels s ls = some t) (hn : stopPhase s ≤ controlCount ls) : StopReleased s ls :=
  (released_or_bounded hr hw h).resolve_right fun hb => by omega

/-- **(C07) The bound that does not depend on the other goroutines.**  Whatever the other threads do, the loop takes
at most `stopPhase s ≤ 7` *control* steps (swap the queue, finish the batch, take the token, check `canRun`, leave —
everything except running one submitted function) before Stop is released.  What cannot be bounded independently of
the submitters is only the number of submitted functions the loop runs on its way: those of the two batches it
drains, the one in progress and the one it swaps in after taking Stop's token. -/
theorem stop_returns_after_seven_control_steps {s t : St} {ls : List Lbl} (hr : Reach s) (hw : s.cpc = .waiting)
    (h : runLabels s ls = some t) (hn : 7 ≤ controlCount ls) : StopReleased s ls :=
  stop_returns_after_phase_control_steps hr hw h (Nat.le_trans (waiting_measure_pos hr hw).2.2 hn)

/-- satisfiable, and the bound 7 is attained: Stop is called right after Start, before the loop's first swap -/
example : ∃ s, Reach s ∧ s.cpc = .waiting ∧ stopPhase s = 7 ∧
    ∃ t, runLabels s [.swap, .execDone, .takeToken, .swap, .execDone, .chk, .exit] = some t ∧ t.cpc = .out :=
  exists_reach [.start, .stopStore, .stopWake] (by decide)

/-- **The bounds are sharp.**  On a path on which Stop gets released the loop has taken at least `stopLower s`
steps; if the loop did not leave early through `quiesce`, at least `stopMeasure s` steps. -/
theorem stop_needs_at_least {s t : St} {ls : List Lbl} (hr : Reach s) (hw : s.cpc = .waiting)
    (h : runLabels s ls = some t) (hrel : StopReleased s ls) :
    stopLower s ≤ loopCount ls ∧ (Lbl.quiesce ∉ ls → stopMeasure s ≤ loopCount ls) := by
  obtain ⟨pre, post, u, v, e1, e2, e3, e4, e5, _⟩ := hrel
  subst e1
  obtain ⟨_, _, _, _, rfl, _⟩ | ⟨_, _, c, _, e⟩ := stop_path hr hw e3
  · simp at e2
  have hu : stopMeasure u = 1 := by simp [stopMeasure, e5]
  have hu' : stopLower u = 1 := by simp [stopLower, e5]
  have hcnt : loopCount (pre ++ Lbl.exit :: post) = loopCount pre + 1 + loopCount post := by
    simp only [loopCount, List.countP_append, countP_cons_toNat, isLoop, Bool.toNat_true]; omega
  refine ⟨by omega, fun hq => ?_⟩
  have := c (fun hm => hq (by simp [hm]))
  omega

theorem drain_step_enabled {s : St} (hr : Reach s) (hrun : s.running = true) (hx : s.lpc ≠ .exit) :
    (∃ l, isDrain l = true ∧ (stepQ s l).isSome = true) ∨ (s.lpc = .sel ∧ s.token = false) := by
  rcases running_lpc hr hrun with ⟨k, hk⟩ | ⟨k, hk⟩ | hk | hk | hk
  · exact .inl ⟨.swap, rfl, by simp [stepQ, hk]⟩
  · cases hb : s.batch with
    | nil => exact .inl ⟨.execDone, rfl, by simp [stepQ, hk, hb]⟩
    | cons g rest => exact .inl ⟨.execOne, rfl, by simp [stepQ, hk, hb]⟩
  · cases htok : s.token with
    | true => exact .inl ⟨.takeToken, rfl, by simp [stepQ, hk, htok]⟩
    | false => exact .inr ⟨hk, rfl⟩
  · exact .inl ⟨.chk, rfl, by simp [stepQ, hk]⟩
  · exact absurd hk hx

/-- **(C07, never stuck.)**  While Stop waits some step of the loop thread is enabled, and not merely the abstract
`quiesce` (which in the real loop needs the live-job count to be zero): a loop parked at its select finds the token
(`stop_is_served`). -/
theorem loop_not_stuck_while_stop_waits {s : St} (hr : Reach s) (hw : s.cpc = .waiting) :
    ∃ l, isLoop l = true ∧ l ≠ .quiesce ∧ (stepQ s l).isSome = true := by
  by_cases hx : s.lpc = .exit
  · exact ⟨.exit, rfl, by simp, by simp [stepQ, hx, hw]⟩
  · rcases drain_step_enabled hr (waiting_facts hr hw).2 hx with ⟨l, h1, h2⟩ | ⟨h1, h2⟩
    · obtain ⟨a, b, -⟩ := isDrain_loop h1
      exact ⟨l, a, b, h2⟩
    · simpa [h1, h2] using (stop_is_served hr hw).2

/-- if every `Ok` state has a `P`-step that lowers `m` or reaches `Goal`, a `P`-path of at most `m s` steps reaches `Goal` -/
theorem path_by_measure {P : Lbl → Prop} {Ok Goal : St → Prop} (m : St → Nat)
    (hstep : ∀ {s}, Reach s → Ok s →
      ∃ l t, stepQ s l = some t ∧ P l ∧ ((Goal t ∧ 0 < m s) ∨ (Ok t ∧ m t < m s)))
    {s : St} (hr : Reach s) (hg : Ok s) :
    ∃ ls t, runLabels s ls = some t ∧ Goal t ∧ (∀ l ∈ ls, P l) ∧ ls.length ≤ m s := by
  generalize hn : m s = n
  induction n using Nat.strongRecOn generalizing s with
  | _ n ih =>
    obtain ⟨l, u, hq, hl, ⟨hgoal, hpos⟩ | ⟨hgu, hlt⟩⟩ := hstep hr hg
    · exact ⟨[l], u, runLabels_cons.mpr ⟨u, hq, rfl⟩, hgoal, by simpa using hl, hn ▸ hpos⟩
    · obtain ⟨ls, t, a, b, c, d⟩ := ih _ (hn ▸ hlt) (.step hr (stepQ_sound _ _ _ hq)) hgu rfl
      refine ⟨l :: ls, t, runLabels_cons.mpr ⟨u, hq, a⟩, b, List.forall_mem_cons.mpr ⟨hl, c⟩, ?_⟩
      simp only [List.length_cons]
      omega

/-- **(C07, possibility, exact.)** From every reachable state in which Stop waits, the loop thread *alone*, in exactly
`stopMeasure s` steps, none of them `quiesce`, reaches its exit and releases Stop. -/
theorem stop_can_return {s : St} (hr : Reach s) (hw : s.cpc = .waiting) :
    ∃ ls t, (∀ l ∈ ls, isLoop l = true ∧ l ≠ .quiesce) ∧ ls.length = stopMeasure s ∧
      runLabels s ls = some t ∧ StopReleased s ls ∧ t.cpc = .out ∧ t.running = false := by
  -- at most `stopMeasure s` steps because every loop step decreases the measure, at least by `stop_needs_at_least`
  obtain ⟨ls, t, hrun, ht, hP, hlen⟩ := path_by_measure (P := fun l => isLoop l = true ∧ l ≠ .quiesce)
    (Ok := fun u => u.cpc = .waiting) (Goal := fun u => u.cpc = .out ∧ u.running = false) stopMeasure
    (fun hu hwu => by
      obtain ⟨l, hl1, hl2, hl3⟩ := loop_not_stuck_while_stop_waits hu hwu
      obtain ⟨v, hq⟩ := Option.isSome_iff_exists.mp hl3
      refine ⟨l, v, hq, ⟨hl1, hl2⟩, ?_⟩
      rcases loop_step_decreases_measure hu hwu hl1 hq with ⟨_, a, b⟩ | ⟨a, b, _⟩
      · exact .inl ⟨⟨a, b⟩, (waiting_measure_pos hu hwu).1⟩
      · exact .inr ⟨a, b⟩)
    hr hw
  have hrel := (stop_path hr hw hrun).resolve_right fun ⟨hwt, _⟩ => by
    rw [ht.1] at hwt
    cases hwt
  have := (stop_needs_at_least hr hw hrun hrel).2 fun hq => (hP _ hq).2 rfl
  have : loopCount ls ≤ ls.length := List.countP_le_length
  exact ⟨ls, t, hP, by omega, hrun, hrel, ht⟩

/-- the hypotheses of `stop_needs_at_least`, `loop_not_stuck_while_stop_waits`, `stop_can_return` are satisfiable
(Stop called while the loop executes a batch of two); there the loop alone needs exactly `stopMeasure = 9` steps
(eight to reach its exit point, then `exit` itself) -/
example : ∃ s, Reach s ∧ s.cpc = .waiting ∧ stopMeasure s = 9 ∧ stopLower s = 5 ∧
    (runLabels s [.execOne, .execOne, .execDone, .takeToken, .swap, .execOne, .execDone, .chk]).map
      (fun t => (t.cpc, t.lpc)) = some (.waiting, .exit) :=
  exists_reach [.enqueue 1, .enqueue 2, .start, .swap, .enqueue 3, .stopStore, .stopWake] (by decide)

/-- Stop's own two steps never block -/
theorem stop_reaches_wait (s : St) (h : s.cpc = .stored) :
    ∃ t, stepQ s .stopWake = some t ∧ t.cpc = .waiting ∧ t.token = true := by
  simp [stepQ, h]

/-- **No bound on the loop's steps holds independently of the submitters**, so "Stop returns after a bounded number of
loop steps", read literally, is false: Stop is called right after Start, `N` functions are submitted before the
loop's first swap, and the loop runs them all before it looks at `canRun`.  So "other threads' steps do not increase
the measure" fails for `enqueue`, for any measure that bounds the loop's steps;
`stop_returns_after_bounded_loop_steps` charges one loop step per submission, which is exact. -/
theorem no_bound_independent_of_submissions (N : Nat) :
    ∃ s, Reach s ∧ s.cpc = .waiting ∧
      ∀ ls t, runLabels s ls = some t → StopReleased s ls → N ≤ loopCount ls := by
  -- the state after Start, Stop's two steps and the submissions `0 … n-1`; it lies `4 + n` loop steps before the exit
  let w (n : Nat) : St := { aux := List.range n, accepted := List.range n, pend := n, token := true,
                            lpc := .swap false, cpc := .waiting, running := true }
  have hr (n : Nat) : Reach (w n) := by
    induction n with
    | zero => exact runLabels_reach init _ [.start, .stopStore, .stopWake] .init rfl
    | succ n ih =>
      have := Reach.step ih (.enqueue (w n) n rfl ⟨List.not_mem_range_self, List.not_mem_nil⟩)
      rwa [← List.range_succ] at this
  refine ⟨w N, hr N, rfl, fun ls t hrun hrel => ?_⟩
  have : 4 + (List.range N).length ≤ loopCount ls := (stop_needs_at_least (hr N) rfl hrun hrel).1
  rw [List.length_range] at this
  omega

/-- the counterexample by evaluation -/
def stopMeasureAfterSubmissions (n : Nat) : Option Nat :=
  (runLabels init ([.start, .stopStore, .stopWake] ++ (List.range n).map .enqueue)).map stopMeasure

#eval (List.range 6).map stopMeasureAfterSubmissions

/-- the counterexample, concretely (kernel-checked): the same state with 0, 1, 2, 3 functions submitted after Stop
began to wait has measure 7, 8, 9, 10, and the loop alone needs exactly that many steps -/
example :
    ((List.range 4).map fun n =>
      (runLabels init ([.start, .stopStore, .stopWake] ++ (List.range n).map .enqueue)).map stopMeasure)
      = [some 7, some 8, some 9, some 10] ∧
    (runLabels init [.start, .stopStore, .stopWake, .enqueue 0, .enqueue 1,
        .swap, .execOne, .execOne, .execDone, .takeToken, .swap, .execDone, .chk]).map (fun s => (s.cpc, s.lpc))
      = some (.waiting, .exit) := by decide

/-- **(C04, enabledness.)**  While the loop runs and has not left its `for`, a function that is accepted but not yet
executed needs no further submission to wake the loop: a drain step of the loop thread is enabled, or else the loop
is parked at its select without a token and the token send a submitter still owes (`wake`) is enabled.  (`canRun`
is not needed here.) -/
theorem loop_enabled_for_pending_function {s : St} {f : Nat} (hr : Reach s) (hrun : s.running = true)
    (hx : s.lpc ≠ .exit) (hf : f ∈ s.aux ∨ f ∈ s.batch) :
    (∃ l, isDrain l = true ∧ (stepQ s l).isSome = true) ∨
    (s.lpc = .sel ∧ s.token = false ∧ 0 < s.pend ∧ (stepQ s .wake).isSome = true) := by
  refine (drain_step_enabled hr hrun hx).imp_right fun ⟨hk, htok⟩ => ?_
  have hfa : s.aux ≠ [] := by
    rcases hf with h | h
    · exact List.ne_nil_of_mem h
    · -- a non-empty batch is being executed, by `InvBatch`, and the loop is at its select
      simpa [hk] using hr.invBatch (List.ne_nil_of_mem h)
  have hp : 0 < s.pend := (no_lost_wakeup hr hk hfa).resolve_left (by simp [htok])
  exact ⟨hk, htok, hp, by simp [stepQ, hp]⟩

/-- satisfiable, also with a stop requested: the loop is at `chk` with `canRun = false` and function 1 queued -/
example : ∃ s, Reach s ∧ s.running = true ∧ s.lpc ≠ .exit ∧ (1 ∈ s.aux ∨ 1 ∈ s.batch) ∧ s.pend = 0 :=
  exists_reach [.start, .swap, .execDone, .snwStore, .wake, .takeToken, .swap, .execDone, .enqueue 1, .wake]
    (by decide)

/-- with every submission call returned (`pend = 0`) the enabled step is a step of the loop thread itself -/
theorem loop_step_enabled_for_pending_function {s : St} {f : Nat} (hr : Reach s) (hrun : s.running = true)
    (hx : s.lpc ≠ .exit) (hf : f ∈ s.aux ∨ f ∈ s.batch) (hp : s.pend = 0) :
    ∃ l, isLoop l = true ∧ isDrain l = true ∧ (stepQ s l).isSome = true := by
  rcases loop_enabled_for_pending_function hr hrun hx hf with ⟨l, h1, h2⟩ | ⟨_, _, h, _⟩
  · exact ⟨l, (isDrain_loop h1).1, h1, h2⟩
  · omega

/-- an upper bound on the number of steps until `f` is executed.  Once `f` is in the batch only `execOne`s remain.
Before that the functions still to be run are added to a constant for the loop's position, and the constants only
have to fall along the drain cycle `exec → chk → sel` (without, then with the token) `→ swap`; they are not tight. -/
def execMeasure (f : Nat) (s : St) : Nat :=
  if f ∈ s.batch then s.batch.length else
  match s.lpc with
  | .swap _ => s.aux.length + 1
  | .sel => s.aux.length + (if s.token then 3 else 4)
  | .chk => s.aux.length + 5
  | .exec _ => s.batch.length + s.aux.length + 6
  | _ => 0

/-- the side conditions of `accepted_function_is_executed_by_loop_alone`; by `InvFifo`, in the queue or in the batch
means accepted and not yet executed -/
def Good (f : Nat) (s : St) : Prop :=
  s.running = true ∧ s.canRun = true ∧ s.lpc ≠ .exit ∧ (f ∈ s.aux ∨ f ∈ s.batch)

theorem drain_step_progress {s t : St} {f : Nat} {l : Lbl} (hr : Reach s) (hg : Good f s) (h : stepQ s l = some t)
    (hl : isDrain l = true ∨ (l = .wake ∧ s.lpc = .sel ∧ s.token = false)) :
    t.pend ≤ s.pend ∧
      ((f ∈ t.executed ∧ 0 < execMeasure f s) ∨ (Good f t ∧ execMeasure f t < execMeasure f s)) := by
  obtain ⟨hrun, hcr, hx, hf⟩ := hg
  -- Outside `exec` the batch is empty, so there `f` is in the queue and `execMeasure` is the line for the loop's
  -- position.  Each label is then checked against that table: `swap` turns the queue into the batch
  -- (`aux.length + 1` to `batch.length`), `execOne` runs `f` or shortens what stands before it, `wake` supplies the
  -- token (4 to 3), and the others move the loop on to a position with a smaller constant.
  have hb := hr.invBatch
  unfold InvBatch at hb
  cases l <;> simp only [isDrain, reduceCtorEq, false_and, or_self, Bool.false_eq_true, false_or] at hl
  case swap =>
    simp only [stepQ] at h
    split at h <;> cases h
    next k hk =>
    simp [hk] at hb
    simp_all [Good, execMeasure]
  case execOne =>
    simp only [stepQ] at h
    split at h <;> cases h
    next k g rest hk hbt =>
    by_cases hgf : g = f
    · simp [execMeasure, hbt, hgf]
    · by_cases hfr : f ∈ rest
      · simp_all [Good, execMeasure]
      · simp_all [Good, execMeasure, Ne.symm hgf]
  case execDone =>
    simp only [stepQ] at h
    split at h <;> cases h
    next k hk hbt =>
    cases k
    · simp_all [Good, execMeasure]
      split <;> omega
    · simp_all [Good, execMeasure]
  case takeToken =>
    obtain ⟨⟨hk, htok⟩, rfl⟩ := stepQ_eq_some h
    simp [hk] at hb
    simp_all [Good, execMeasure]
  case chk =>
    obtain ⟨hk, rfl⟩ := stepQ_eq_some h
    simp [hk] at hb
    simp_all [Good, execMeasure]
    split <;> omega
  case wake =>
    obtain ⟨hp, rfl⟩ := stepQ_eq_some h
    simp [hl.2.1] at hb
    simp_all [Good, execMeasure]

theorem exec_progress_step {s : St} {f : Nat} (hr : Reach s) (hg : Good f s) :
    ∃ l t, stepQ s l = some t ∧ (isDrain l = true ∨ (l = .wake ∧ 0 < s.pend)) ∧ t.pend ≤ s.pend ∧
      ((f ∈ t.executed ∧ 0 < execMeasure f s) ∨ (Good f t ∧ execMeasure f t < execMeasure f s)) := by
  have ⟨hrun, _, hx, hf⟩ := hg
  rcases loop_enabled_for_pending_function hr hrun hx hf with ⟨l, hl, hen⟩ | ⟨hk, htok, hp, hen⟩
  · obtain ⟨t, ht⟩ := Option.isSome_iff_exists.mp hen
    exact ⟨l, t, ht, .inl hl, drain_step_progress hr hg ht (.inl hl)⟩
  · obtain ⟨t, ht⟩ := Option.isSome_iff_exists.mp hen
    exact ⟨.wake, t, ht, .inr ⟨rfl, hp⟩, drain_step_progress hr hg ht (.inr ⟨rfl, hk, htok⟩)⟩

/-- the bounded form; `0 < s.pend` may speak of the start state because `pend` does not grow along the path -/
theorem accepted_function_is_executed_within {s : St} {f : Nat} (hr : Reach s) (hg : Good f s) :
    ∃ ls t, runLabels s ls = some t ∧ f ∈ t.executed ∧
      (∀ l ∈ ls, isDrain l = true ∨ (l = .wake ∧ 0 < s.pend)) ∧ ls.length ≤ execMeasure f s :=
  path_by_measure (Ok := fun u => Good f u ∧ u.pend ≤ s.pend) (Goal := fun u => f ∈ u.executed) (execMeasure f)
    (fun hu ⟨hg, hp⟩ => by
      obtain ⟨l, v, hq, hl, hpv, hres⟩ := exec_progress_step hu hg
      exact ⟨l, v, hq, hl.imp_right fun h => ⟨h.1, by omega⟩,
        hres.imp_right fun h => ⟨⟨h.1, by omega⟩, h.2⟩⟩)
    hr ⟨hg, Nat.le_refl _⟩

/-- **(C04) While the loop is running an accepted function is executed without any further submission.**
If the loop runs, no stop has been requested, the loop has not left its `for`, and `f` is accepted but not yet
executed, a path leads to the execution of `f` that consists of drain steps of the loop thread — never `quiesce`,
never `exit` — plus, only while the loop is parked at its select without a token, token sends that submitters whose
function is already queued still owe (`no_lost_wakeup`): the second half of a `RunOnLoop` call whose first half has
happened.  If every accepted `RunOnLoop` call has returned (`pend = 0`) the loop thread does it alone.
The side conditions `canRun` and `lpc ≠ exit` cannot be dropped, nor can `wake` when `pend > 0`: see the two
counterexamples below. -/
theorem accepted_function_is_executed_by_loop_alone {s : St} {f : Nat} (hr : Reach s) (hrun : s.running = true)
    (hcr : s.canRun = true) (hx : s.lpc ≠ .exit) (hf : f ∈ s.aux ∨ f ∈ s.batch) :
    ∃ ls t, runLabels s ls = some t ∧ f ∈ t.executed ∧
      (∀ l ∈ ls, isDrain l = true ∨ l = .wake) ∧
      (s.pend = 0 → ∀ l ∈ ls, isDrain l = true) ∧
      (∀ l ∈ ls, l ≠ .quiesce ∧ l ≠ .exit ∧ isEnqueue l = false) := by
  obtain ⟨ls, t, hrun, hex, hP, -⟩ := accepted_function_is_executed_within hr ⟨hrun, hcr, hx, hf⟩
  refine ⟨ls, t, hrun, hex, fun l hl => (hP l hl).imp_right (·.1), fun h0 l hl => ?_, fun l hl => ?_⟩
  · exact (hP l hl).resolve_right fun h => by omega
  · rcases hP l hl with h | ⟨rfl, -⟩
    · obtain ⟨h1, h2, h3⟩ := isDrain_loop h
      exact ⟨h2, h3, (isLoop_classes h1).1⟩
    · simp [isEnqueue]

/-- satisfiable: two functions queued, the loop parked at its select, the submissions complete (`pend = 0`) -/
example : ∃ s, Reach s ∧ s.running = true ∧ s.canRun = true ∧ s.lpc ≠ .exit ∧ (2 ∈ s.aux ∨ 2 ∈ s.batch) ∧
    s.pend = 0 ∧ (runLabels s [.takeToken, .swap, .execOne, .execOne]).map (·.executed) = some [1, 2] :=
  exists_reach [.start, .swap, .execDone, .enqueue 1, .wake, .enqueue 2, .wake] (by decide)

/-- **Counterexample 1 ("by steps of the loop alone" is too much to ask).**  The submitter of function 1 has appended
under the lock but not yet sent the token: *no* drain step of the loop is enabled, only `quiesce` (which in the real
loop needs the live-job count to be zero), and it leads out of the loop with 1 still queued.  The submitter's owed
`wake` is enabled. -/
example : ∃ s, runLabels init [.start, .swap, .execDone, .enqueue 1] = some s ∧ s.running = true ∧ s.canRun = true ∧
    1 ∈ s.aux ∧ s.pend = 1 ∧
    [Lbl.swap, .execOne, .execDone, .takeToken, .chk, .exit].all (fun l => (stepQ s l).isNone) = true ∧
    (stepQ s .wake).isSome = true ∧
    (runLabels s [.quiesce, .exit]).map (fun t => (t.running, t.aux, t.executed)) = some (false, [1], []) := by
  decide

/-- **Counterexample 2 ("while the loop is running" needs "and has not been asked to stop").**  Function 1 is accepted,
queued and its token sent, but a stop was requested: the loop's only possible steps are `chk`, `exit`, and 1 stays
queued until the next Start (it is not lost: `InvFifo`). -/
example : ∃ s, runLabels init [.start, .swap, .execDone, .snwStore, .wake, .takeToken, .swap, .execDone,
      .enqueue 1, .wake] = some s ∧ s.running = true ∧ s.canRun = false ∧ 1 ∈ s.aux ∧ s.pend = 0 ∧
    [Lbl.swap, .execOne, .execDone, .takeToken, .quiesce, .exit].all (fun l => (stepQ s l).isNone) = true ∧
    (runLabels s [.chk]).map
      (fun t => [Lbl.swap, .execOne, .execDone, .takeToken, .quiesce, .chk].all (fun l => (stepQ t l).isNone)) = some true ∧
    (runLabels s [.chk, .exit]).map (fun t => (t.running, t.aux, t.executed)) = some (false, [1], []) := by
  decide

/-- **(C06, queue side.)**  The way out is never blocked: at its select the loop's exit on quiescence is enabled (the
guard "live-job count = 0" is not part of `Queue`; `GN.EventLoop.Combined.guardQ` adds it), and after it the final
step — clear `running`, broadcast — unless a `Stop` holds the stop lock between its store and its wait, in which case
Stop's own next step is enabled and then the exit is. -/
theorem run_exit_never_blocked (s : St) (h : s.lpc = .sel) :
    ∃ t, stepQ s .quiesce = some t ∧ t.lpc = .exit ∧ t.cpc = s.cpc ∧
      (t.cpc ≠ .stored → ∃ u, stepQ t .exit = some u ∧ u.running = false ∧ u.lpc = .idle) ∧
      (t.cpc = .stored → ∃ t' u, stepQ t .stopWake = some t' ∧ stepQ t' .exit = some u ∧ u.running = false ∧
        u.lpc = .idle ∧ u.cpc = .out) := by
  refine ⟨{ s with lpc := .exit }, by simp [stepQ, h], rfl, rfl, ?_, ?_⟩
  · intro (hc : s.cpc ≠ .stored)
    simp [stepQ, hc]
  · intro (hc : s.cpc = .stored)
    exact ⟨{ s with lpc := .exit, token := true, cpc := .waiting },
      { s with lpc := .idle, token := true, cpc := .out, running := false },
      by simp [stepQ, hc], by simp [stepQ], rfl, rfl, rfl⟩

/-- satisfiable in both cases: a loop parked at its select, without and with a Stop between its store and its wait -/
example : (∃ s, runLabels init [.start, .swap, .execDone] = some s ∧ s.lpc = .sel ∧ s.cpc ≠ .stored) ∧
    (∃ s, runLabels init [.start, .swap, .execDone, .stopStore] = some s ∧ s.lpc = .sel ∧ s.cpc = .stored) := by
  decide

end QueueProgress

section LedgerProgress
open GN.EventLoop.Ledger

theorem stepL_complete {s t : St} (h : Step s t) : ∃ l, stepL s l = some t := by
  cases h with
  | setTimeout => exact ⟨.setTimeout, rfl⟩
  | setInterval => exact ⟨.setInterval, rfl⟩
  | setImmediate => exact ⟨.setImmediate, by simp [stepL, *]⟩
  | setImmediateRefused => exact ⟨.setImmediateRefused, by simp [stepL, *]⟩
  | expire i => exact ⟨.expire i, by simp [stepL, *]⟩
  | deliverLive i => exact ⟨.deliverLive i, by simp [stepL, *]⟩
  | deliverDead i => exact ⟨.deliverDead i, by simp [stepL, *]⟩
  | clear i => exact ⟨.clear i, by simp [stepL, *]⟩
  | clearNoop i => exact ⟨.clearNoop i, by simp [stepL, *]⟩
  | tick i => exact ⟨.tick i, by simp [stepL, *]⟩
  | deliverTick i => exact ⟨.deliverTick i, by simp [stepL, *]⟩
  | istop i => exact ⟨.istop i, by simp [stepL, *]⟩
  | deliverRemove i => exact ⟨.deliverRemove i, by simp [stepL, *]⟩
  | runImmediateLive i => exact ⟨.runImmediateLive i, by simp [stepL, *]⟩
  | runImmediateDead i => exact ⟨.runImmediateDead i, by simp [stepL, *]⟩
  | setTerminated b => exact ⟨.setTerminated b, rfl⟩

/-- the job's own remaining steps until its callback runs (the runtime timer expires, the loop receives `doTimeout`;
the loop runs `doImmediate`): no `clear`, no `setTerminated`, no step of any other job -/
def fireLabels (i : Nat) (j : Job) : List Lbl :=
  match j.kind, j.g with
  | .timeout, .armed => [.expire i, .deliverLive i]
  | .timeout, .sending => [.deliverLive i]
  | .immediate, .queued => [.runImmediateLive i]
  | _, _ => []

def pendingSteps (j : Job) : Nat :=
  match j.kind, j.g with
  | .timeout, .armed => 2
  | .timeout, .sending => 1
  | .immediate, .queued => 1
  | _, _ => 0

theorem fireLabels_length (i : Nat) (j : Job) : (fireLabels i j).length = pendingSteps j := by
  unfold fireLabels pendingSteps; split <;> rfl

theorem fireLabels_own (i : Nat) (j : Job) :
    ∀ l ∈ fireLabels i j, l = .expire i ∨ l = .deliverLive i ∨ l = .runImmediateLive i := by
  unfold fireLabels
  split <;> simp

theorem live_oneshot_facts {s : St} {i : Nat} {j : Job} (hr : Reach s) (hj : s.jobs[i]? = some j)
    (hk : j.kind = .timeout ∨ j.kind = .immediate) (hc : j.cancelled = false) :
    j.fired = 0 ∧ ((j.kind = .timeout ∧ (j.g = .armed ∨ j.g = .sending)) ∨ (j.kind = .immediate ∧ j.g = .queued)) := by
  have hm := List.mem_of_getElem? hj
  have hni : j.kind ≠ .interval := by rcases hk with hk | hk <;> simp [hk]
  obtain ⟨h1, h2⟩ := (hr.jobOK hm).oneshot hni
  refine ⟨by simp [hc] at h2; omega, ?_⟩
  rcases live_job_g hr hm hc with h | ⟨hi, -⟩ | h
  · exact .inl h
  · exact absurd hi hni
  · exact .inr h

theorem fired_once_stays_once {t u : St} (hr : Reach t) (h : Steps t u) {i : Nat} {j : Job}
    (hj : t.jobs[i]? = some j) (hk : j.kind = .timeout ∨ j.kind = .immediate) (hf : j.fired = 1) :
    ∃ j', u.jobs[i]? = some j' ∧ j'.kind = j.kind ∧ j'.fired = 1 := by
  obtain ⟨j', h1, h2, h3, -⟩ := steps_job h hj
  have := timeout_fires_at_most_once (Steps.reach hr h) j' (List.mem_of_getElem? h1) (by rw [h2]; exact hk)
  exact ⟨j', h1, h2, by omega⟩

/-- **(C05) A timeout or immediate that is not cleared does run, exactly once.**  A live one-shot job
(`cancelled = false`: a fired one is cancelled by its own delivery) has not fired yet; its own steps `fireLabels i j`
— at most two: timer expiry, delivery on the loop (`fireLabels_own`) — are enabled one after the other and make it
fire; and after them, *in every state reachable by any steps whatsoever*, its `fired` count is exactly 1 (≥ 1 because
counts never decrease, ≤ 1 by `Ledger.timeout_fires_at_most_once`). -/
theorem uncleared_oneshot_fires_exactly_once {s : St} {i : Nat} {j : Job} (hr : Reach s)
    (hj : s.jobs[i]? = some j) (hk : j.kind = .timeout ∨ j.kind = .immediate) (hc : j.cancelled = false) :
    j.fired = 0 ∧ fireLabels i j ≠ [] ∧
    ∃ t, runLabels s (fireLabels i j) = some t ∧
      ∀ u, Steps t u → ∃ j', u.jobs[i]? = some j' ∧ j'.kind = j.kind ∧ j'.fired = 1 := by
  obtain ⟨hf, hcase⟩ := live_oneshot_facts hr hj hk hc
  -- in each of the three cases the job's own steps are enabled one after the other, and the last one fires it
  obtain ⟨hne, t, j', h1, h2, h3, h4⟩ : fireLabels i j ≠ [] ∧ ∃ t j', runLabels s (fireLabels i j) = some t ∧
      t.jobs[i]? = some j' ∧ j'.kind = j.kind ∧ j'.fired = 1 := by
    rcases hcase with ⟨hk, hg | hg⟩ | ⟨hk, hg⟩ <;> simp [fireLabels, runLabels, stepL, hj, hk, hg, hc, hf, St.upd]
  refine ⟨hf, hne, t, h1, fun u hu => ?_⟩
  obtain ⟨j'', a, b, c⟩ := fired_once_stays_once (runLabels_reach s t _ hr h1) hu h2 (h3 ▸ hk) h4
  exact ⟨j'', a, b.trans h3, c⟩

/-- satisfiable, for a timeout (job 0, armed) and an immediate (job 1, queued), with an interval around -/
example : ∃ s j0 j1, Reach s ∧ s.jobs[0]? = some j0 ∧ j0.kind = .timeout ∧ j0.cancelled = false ∧
    s.jobs[1]? = some j1 ∧ j1.kind = .immediate ∧ j1.cancelled = false ∧
    fireLabels 0 j0 = [.expire 0, .deliverLive 0] ∧ fireLabels 1 j1 = [.runImmediateLive 1] ∧
    (runLabels s (fireLabels 0 j0 ++ fireLabels 1 j1)).map (fun t => t.jobs.map (·.fired)) = some [1, 1, 0] :=
  ⟨_, _, _, runLabels_reach init _ [.setTimeout, .setImmediate, .setInterval] .init rfl,
    rfl, rfl, rfl, rfl, rfl, rfl, rfl, rfl, by decide +kernel⟩

def isOwn (i : Nat) : Lbl → Bool
  | .expire k | .deliverLive k | .runImmediateLive k => k == i
  | _ => false

def ownCount (i : Nat) (ls : List Lbl) : Nat := ls.countP (isOwn i)

/-- **(C05, per step.)** Nothing but `clear i` can stop a live timeout or immediate `i`: after any other enabled
step of the system (other jobs being set, expiring, delivered, cleared; intervals ticking; Terminate's flag) the
job is still live with no more own steps to go than before — one fewer if the step was its own — or the step was
its own delivery and it has fired. -/
theorem other_steps_cannot_stop_it {s t : St} {l : Lbl} {i : Nat} {j : Job} (hr : Reach s)
    (hj : s.jobs[i]? = some j) (hk : j.kind = .timeout ∨ j.kind = .immediate) (hc : j.cancelled = false)
    (h : stepL s l = some t) (hl : l ≠ .clear i) :
    ∃ j', t.jobs[i]? = some j' ∧ j'.kind = j.kind ∧
      ((j'.cancelled = false ∧ pendingSteps j' + (isOwn i l).toNat ≤ pendingSteps j) ∨
       (j'.fired = 1 ∧ isOwn i l = true)) := by
  have hf := (live_oneshot_facts hr hj hk hc).1
  have keep : isOwn i l = false →
      ((j.cancelled = false ∧ pendingSteps j + (isOwn i l).toNat ≤ pendingSteps j) ∨
       (j.fired = 1 ∧ isOwn i l = true)) := fun e => .inl ⟨hc, by simp [e]⟩
  have notInterval : j.kind ≠ .interval := by rcases hk with hk | hk <;> simp [hk]
  have notCancelled : j.cancelled ≠ true := by simp [hc]
  cases l
  case setTimeout | setInterval =>
    cases h
    exact ⟨j, getElem?_append_pres _ _ _ _ hj, rfl, keep rfl⟩
  case setImmediate =>
    cases (Option.ite_none_right_eq_some.mp h).2
    exact ⟨j, getElem?_append_pres _ _ _ _ hj, rfl, keep rfl⟩
  case setImmediateRefused =>
    cases (Option.ite_none_right_eq_some.mp h).2
    exact ⟨j, hj, rfl, keep rfl⟩
  case setTerminated =>
    cases h
    exact ⟨j, hj, rfl, keep rfl⟩
  case clearNoop =>
    obtain ⟨-, -, -, rfl⟩ := stepL_eq_some h
    exact ⟨j, hj, rfl, keep rfl⟩
  -- the labels that act on one job `k`: for `k ≠ i` job `i` is untouched; for `k = i` the guard was checked on `j`
  all_goals
    obtain ⟨j0, hj0, hg, rfl⟩ := stepL_eq_some h
    refine upd_at _ hj0 hj (fun hki => ⟨rfl, keep (by simp [isOwn, hki])⟩) fun hki e => ?_
    subst hki e
  case expire => exact ⟨rfl, .inl ⟨hc, by simp [pendingSteps, isOwn, hg.1, hg.2]⟩⟩
  case deliverLive | runImmediateLive => exact ⟨rfl, .inr ⟨by simp [hf], by simp [isOwn]⟩⟩
  case clear => exact absurd rfl hl
  case deliverDead | runImmediateDead | istop => exact absurd hg.2.2 notCancelled
  case tick | deliverTick | deliverRemove => exact absurd hg.1 notInterval

theorem uncleared_oneshot_path {s t : St} {ls : List Lbl} {i : Nat} {j : Job} (hr : Reach s)
    (hj : s.jobs[i]? = some j) (hk : j.kind = .timeout ∨ j.kind = .immediate) (hc : j.cancelled = false)
    (h : runLabels s ls = some t) (hx : Lbl.clear i ∉ ls) :
    ∃ j', t.jobs[i]? = some j' ∧ j'.kind = j.kind ∧
      ((j'.cancelled = false ∧ j'.fired = 0 ∧ ownCount i ls < pendingSteps j) ∨ j'.fired = 1) := by
  induction ls generalizing s j with
  | nil =>
    cases h
    obtain ⟨hf, hne, -⟩ := uncleared_oneshot_fires_exactly_once hr hj hk hc
    exact ⟨j, hj, rfl, .inl ⟨hc, hf, fireLabels_length i j ▸ List.length_pos_iff.mpr hne⟩⟩
  | cons l ls ih =>
    obtain ⟨u, hq, h⟩ := runLabels_cons.mp h
    simp only [List.mem_cons, not_or] at hx
    have hru := Reach.step hr (stepL_sound s u l hq)
    obtain ⟨j1, h1, k1, ⟨c1, p1⟩ | ⟨f1, -⟩⟩ := other_steps_cannot_stop_it hr hj hk hc hq (fun e => hx.1 e.symm)
    · obtain ⟨j2, h2, k2, hres⟩ := ih hru h1 (k1 ▸ hk) c1 h hx.2
      refine ⟨j2, h2, k2.trans k1, hres.imp_left fun ⟨a, b, c⟩ => ⟨a, b, ?_⟩⟩
      simp only [ownCount, countP_cons_toNat] at *
      omega
    · obtain ⟨j2, h2, k2, f2⟩ := fired_once_stays_once hru (runLabels_steps (.refl u) h) h1 (k1 ▸ hk) f1
      exact ⟨j2, h2, k2.trans k1, .inr f2⟩

/-- **(C05, bounded form: "provided the loop keeps running".)**  On *any* path from a reachable state on which a live
timeout or immediate `i` is not cleared (neither by `clearTimeout` / `clearImmediate` nor by Terminate's cancel
loop), as soon as the path contains `pendingSteps j ≤ 2` of the job's own steps (the timer expires; the loop takes
the delivery) the job has fired, exactly once.  With `other_steps_cannot_stop_it` (its own next step stays enabled
until taken) the only assumption left is that the runtime timer expires and the running loop takes its deliveries. -/
theorem uncleared_oneshot_fires_within_two_own_steps {s t : St} {ls : List Lbl} {i : Nat} {j : Job} (hr : Reach s)
    (hj : s.jobs[i]? = some j) (hk : j.kind = .timeout ∨ j.kind = .immediate) (hc : j.cancelled = false)
    (h : runLabels s ls = some t) (hx : Lbl.clear i ∉ ls) (hn : pendingSteps j ≤ ownCount i ls) :
    pendingSteps j ≤ 2 ∧ ∃ j', t.jobs[i]? = some j' ∧ j'.kind = j.kind ∧ j'.fired = 1 := by
  obtain ⟨j', h1, h2, hres⟩ := uncleared_oneshot_path hr hj hk hc h hx
  exact ⟨by unfold pendingSteps; split <;> omega, j', h1, h2, hres.resolve_left fun ⟨_, _, c⟩ => by omega⟩

/-- satisfiable: job 0 is a live timeout; other jobs are set, cleared and delivered around it; no `clear 0` -/
example : ∃ s j, Reach s ∧ s.jobs[0]? = some j ∧ j.kind = .timeout ∧ j.cancelled = false ∧ pendingSteps j = 2 ∧
    ownCount 0 [.setInterval, .expire 0, .clear 1, .setTerminated true, .istop 1, .deliverLive 0, .deliverRemove 1] = 2 ∧
    (runLabels s [.setInterval, .expire 0, .clear 1, .setTerminated true, .istop 1, .deliverLive 0, .deliverRemove 1]).map
      (fun t => t.jobs.map (·.fired)) = some [1, 0] :=
  ⟨_, _, runLabels_reach init _ [.setTimeout] .init rfl, rfl, rfl, rfl, rfl, by decide, by decide +kernel⟩

/-- **(C06, "always then": returning loses nothing.)**  In a quiescent reachable state (`jobCount = 0`, where the
loop's condition `jobCount > 0` fails) no step of the ledger starts any callback … -/
theorem quiescent_nothing_fires {s t : St} (hr : Reach s) (h0 : s.jobCount = 0) (h : Step s t) {i : Nat} {j j' : Job}
    (hs : s.jobs[i]? = some j) (ht : t.jobs[i]? = some j') : j'.fired = j.fired := by
  obtain ⟨j1, h1, -, -, h2 | h2⟩ := step_job h hs <;> cases h1.symm.trans ht
  · exact h2
  · have := (quiescent_iff hr).mp h0 j (List.mem_of_getElem? hs)
    rw [h2.2] at this
    cases this

/-- … and the steps that need a live job — a live delivery, a live immediate, a clear that counts — are disabled for
every job.  (New jobs can of course still be set by other goroutines; that is a new Run.) -/
theorem quiescent_disables_live_steps {s : St} (hr : Reach s) (h0 : s.jobCount = 0) (i : Nat) :
    stepL s (.deliverLive i) = none ∧ stepL s (.runImmediateLive i) = none ∧ stepL s (.clear i) = none := by
  have hall := (quiescent_iff hr).mp h0
  cases hj : s.jobs[i]? with
  | none => simp [stepL, hj]
  | some j =>
    have := hall j (List.mem_of_getElem? hj)
    simp [stepL, hj, this]

/-- **(C06, conversely.)**  The loop that has not returned is not waiting for nothing: while the live-job count is
non-zero some live job has an enabled step of its own. -/
theorem live_work_is_enabled {s : St} (hr : Reach s) (h0 : s.jobCount ≠ 0) :
    ∃ i j l, s.jobs[i]? = some j ∧ j.cancelled = false ∧
      (l = .expire i ∨ l = .deliverLive i ∨ l = .runImmediateLive i ∨ l = .tick i ∨ l = .deliverTick i) ∧
      (stepL s l).isSome = true := by
  obtain ⟨j, hjm, hc⟩ : ∃ j ∈ s.jobs, j.cancelled = false := by simpa using mt (quiescent_iff hr).mpr h0
  obtain ⟨i, hi⟩ := List.getElem?_of_mem hjm
  obtain ⟨l, h1, h2, -⟩ := live_job_has_step hr hi hc
  exact ⟨i, j, l, hi, hc, h1, h2⟩

/-- satisfiable: a quiescent reachable state with history (a fired timeout, a cleared interval whose goroutine is
still around and can still deliver a dead tick), and a non-quiescent one -/
example : (∃ s, Reach s ∧ s.jobCount = 0 ∧ s.jobs.length = 2 ∧ (stepL s (.deliverTick 1)).isSome = true) ∧
    (∃ s, Reach s ∧ s.jobCount ≠ 0) :=
  ⟨⟨_, runLabels_reach init _ [.setTimeout, .setInterval, .expire 0, .tick 1, .deliverLive 0, .clear 1] .init rfl,
      by decide +kernel, by decide +kernel, by decide +kernel⟩,
    ⟨_, runLabels_reach init _ [.setImmediate] .init rfl, by decide +kernel⟩⟩

end LedgerProgress

/-- **(C06) Run() returns when no live work is left — "always then".**  Here the two systems only stand side by side,
with the convention that the queue system's `quiesce` step is taken when the ledger's count is zero
(`GN.EventLoop.Combined` makes that a guard of the step).  For a loop parked at its select: at count zero — exactly
when no job is live — its way out is never blocked and returning loses nothing; otherwise some live job has an
enabled step of its own.  "Never earlier" is `Ledger.count_exact`. -/
theorem run_returns_at_quiescence {q : Queue.St} {l : Ledger.St} (hl : Ledger.Reach l) (hsel : q.lpc = .sel) :
    (l.jobCount = 0 →
      (∃ q1, Queue.stepQ q .quiesce = some q1 ∧ q1.lpc = .exit ∧
        (q1.cpc ≠ .stored → ∃ q2, Queue.stepQ q1 .exit = some q2 ∧ q2.running = false ∧ q2.lpc = .idle)) ∧
      (∀ j ∈ l.jobs, j.cancelled = true) ∧
      (∀ i, Ledger.stepL l (.deliverLive i) = none ∧ Ledger.stepL l (.runImmediateLive i) = none ∧
            Ledger.stepL l (.clear i) = none) ∧
      (∀ (l' : Ledger.St) (i : Nat) (j j' : Ledger.Job), Ledger.Step l l' → l.jobs[i]? = some j → l'.jobs[i]? = some j' → j'.fired = j.fired)) ∧
    (l.jobCount ≠ 0 →
      ∃ i j lab, l.jobs[i]? = some j ∧ j.cancelled = false ∧
        (lab = .expire i ∨ lab = .deliverLive i ∨ lab = .runImmediateLive i ∨ lab = .tick i ∨ lab = .deliverTick i) ∧
        (Ledger.stepL l lab).isSome = true) := by
  refine ⟨fun h0 => ⟨?_, (Ledger.quiescent_iff hl).mp h0, quiescent_disables_live_steps hl h0,
    fun _ _ _ _ hst => quiescent_nothing_fires hl h0 hst⟩, live_work_is_enabled hl⟩
  obtain ⟨t, h1, h2, -, h4, -⟩ := run_exit_never_blocked q hsel
  exact ⟨t, h1, h2, h4⟩

/-- both cases are inhabited: after set / expire / deliver the count is 0; after set it is 1 -/
example : (∃ q, Queue.runLabels Queue.init [.start, .swap, .execDone] = some q ∧ q.lpc = .sel) ∧
    (∃ l, Ledger.runLabels Ledger.init [.setTimeout, .expire 0, .deliverLive 0] = some l ∧ l.jobCount = 0) ∧
    (∃ l, Ledger.runLabels Ledger.init [.setTimeout] = some l ∧ l.jobCount ≠ 0) := by
  refine ⟨by decide, ⟨_, rfl, by decide +kernel⟩, ⟨_, rfl, by decide +kernel⟩⟩

end GN.EventLoop.Progress
