import GN.EventLoop.Queue
import GN.EventLoop.Ledger

/-!
# Event loop — the queue system and the job ledger, coupled   [C03–C08, in particular C06]

`GN.EventLoop.Queue` (aux queue, wake-up token, Start/Stop/Terminate handshake, the loop's program counter) and
`GN.EventLoop.Ledger` (timeouts, intervals, immediates, `jobCount`) are two separate transition systems: nothing in
them ties `Queue`'s `quiesce` step (the loop leaves `run()` because `jobCount > 0` is false) to the ledger's
`jobCount`, and `Queue` has no transition for the `jobChan` arm of the loop's `select`.  This file defines the
**combined system** and proves that the coupling is coherent.

## State

A pair `q : Queue.St`, `l : Ledger.St`, plus two flags:

* `bg` — `run(inBackground)`: `true` for `Start()` / `StartInForeground()`, `false` for `Run(fn)`.  Go keeps the
  extra `jobCount++` / `jobCount--` of background mode in `loop.jobCount` itself; here the ledger's `jobCount` stays
  the number of live jobs and the loop's condition reads `effCount = l.jobCount + (if bg then 1 else 0)`.
* `inJob` — the loop goroutine has received a closure from `jobChan` (`doTimeout` / `doInterval` / the `removeJob`
  closure) and is still inside `job()`.  The ledger's delivery steps are atomic; the flag is what lets a timer
  callback call `setTimeout` / `clearTimeout` *before* the loop is back at the head of its `for` (label `jobDone`).
  `Queue.LPc.sel` stands for the head of the `for` loop *and* the `select`; "the loop is at its select" is
  `lpc = sel ∧ inJob = false` (`AtSelect`).

## Steps (`stepC`, executable) and the coupling guards

Every `Queue` label (`.q a`), `Start()` as a second way of taking `Queue`'s `start` (`.startBg`), every `Ledger`
label (`.l a`), and `jobDone`.  The guards, all read off `eventloop.go`:

* **(g1)** `quiesce` needs `effCount ≤ 0` (Go: `for loop.jobCount > 0` is false) and `inJob = false`;
  `takeToken` — the wake-up arm of the `select`, which is inside the `for` body — needs `0 < effCount` and
  `inJob = false`.  (The guard on `takeToken` mirrors the same `for` condition from the other side: a loop whose
  count is zero leaves, it does not take the token.)
* **(g2)** by the goroutine a ledger step runs on:
  - `expire`, `tick`, `istop` (runtime timer, ticker, the interval goroutine): always enabled;
  - `deliverLive`, `deliverDead`, `deliverTick`, `deliverRemove` (a receive on `jobChan`): `CanReceive` — the loop is
    at its select with `0 < effCount`, or the controller is in Terminate's drain (`TermPhase` and every registered
    job already cancelled — the cancel loop precedes the drain).  A delivery at the select sets `inJob`; a delivery
    in the drain does not (every job is cancelled there, no callback runs);
  - `runImmediateLive`, `runImmediateDead`: `doImmediate` is an *aux-queue function*, not a `jobChan` delivery, so
    these need `lpc = exec _` or `lpc = texec` (`inRunAux`) — not the select;
  - `setTimeout`, `setInterval`, `setImmediate`, `setImmediateRefused`: `codeRunning` — inside a delivered job
    (`inJob`), inside `runAux` (`exec _`, `texec`: `RunOnLoop` functions, the closures of Go-level `SetTimeout` …),
    or inside `fn` of `Run(fn)`, which runs between `setRunning()` and `run(false)`, i.e. at `lpc = swap false` in
    foreground mode;
  - `clear`, `clearNoop`: `codeRunning`, or one iteration of Terminate's cancel loop: `TermPhase` and the job is
    registered in `loop.jobs`.
* **(g3)** `terminated` is one Go variable.  `Queue`'s `termFlag` also sets the ledger's flag, `Queue`'s `start`
  (both modes) also clears it, so the two copies agree in every reachable state (`terminated_flags_agree`); the
  ledger's own `setTerminated b` is enabled only as the no-op `b = q.terminated`.

## Limits

* An immediate is a ledger job *and* an aux-queue function (`doImmediate`).  The two systems use separate
  identities (job index / function id) and the combined system does not identify them: `runImmediate*` is only
  required to happen inside some `runAux`, not to coincide with the `execOne` of its own closure; likewise a
  Go-level `SetTimeout` is an `enqueue` in `Queue` and, independently, a `setTimeout` inside some `runAux` here.
* Terminate's cancel loop and drain have no program counter in `Queue`; `TermPhase` (the flag is set, Terminate's
  `runAux` is over, the loop has not been started again) over-approximates them: it still holds after Terminate has
  returned, until the next Start / Run, and `start` is enabled during it — the API contract forbids calling Start
  concurrently with Terminate, the model does not enforce that.
* "Code is running" is a guard, not a step: a callback's own `setTimeout` / `clear*` calls are separate ledger
  steps taken while `inJob` (or `exec _` / `texec` / `swap false`) holds.
-/

namespace GN.EventLoop.Combined

open GN.EventLoop

structure St where
  q     : Queue.St := {}
  l     : Ledger.St := {}
  bg    : Bool := false      -- run(inBackground): Start() / StartInForeground()
  inJob : Bool := false      -- the loop goroutine is inside a closure received from jobChan
  deriving Repr

def init : St := {}

/-- what Go's `loop.jobCount` holds while `run` is in its `for` loop: the live jobs, plus one in background mode -/
def effCount (s : St) : Int := s.l.jobCount + (if s.bg then 1 else 0)

/-- the loop goroutine is at the head of its `for` loop / at its `select`, not inside a received job -/
def AtSelect (s : St) : Prop := s.q.lpc = .sel ∧ s.inJob = false

/-- where the cancel loop and the drain of Terminate happen (see Limits in the head comment) -/
def TermPhase (s : St) : Prop := s.q.terminated = true ∧ s.q.lpc = .idle

instance (s : St) : Decidable (TermPhase s) := inferInstanceAs (Decidable (_ ∧ _))

/-- Terminate's cancel loop is through: every job in the registry `loop.jobs` is cancelled -/
def RegisteredAllCancelled (s : St) : Prop := ∀ j ∈ s.l.jobs, j.inJobs = true → j.cancelled = true

instance (s : St) : Decidable (RegisteredAllCancelled s) := inferInstanceAs (Decidable (∀ j ∈ s.l.jobs, _))

/-- **(g2, deliveries)** the loop goroutine — or Terminate's drain — can receive from `jobChan` -/
def CanReceive (s : St) : Prop :=
  s.inJob = false ∧ ((s.q.lpc = .sel ∧ 0 < effCount s) ∨ (TermPhase s ∧ RegisteredAllCancelled s))

instance (s : St) : Decidable (CanReceive s) := inferInstanceAs (Decidable (_ ∧ _))

/-- a batch of queued functions is being executed (`runAux`, by the loop or by Terminate) -/
def inRunAux (s : St) : Bool :=
  match s.q.lpc with
  | .exec _ | .texec => true
  | _ => false

/-- **(g2, set/clear)** JavaScript or a Go closure is executing on the goroutine that owns the loop: a delivered
    job's callback, a queued function, or `fn` of `Run(fn)` -/
def codeRunning (s : St) : Bool :=
  s.inJob ||
  match s.q.lpc with
  | .exec _ | .texec => true
  | .swap false => !s.bg
  | _ => false

def registered (s : St) (i : Nat) : Bool :=
  match s.l.jobs[i]? with
  | some j => j.inJobs
  | none => false

/-- **(g1)** the guards on `Queue` labels -/
def guardQ (s : St) : Queue.Lbl → Bool
  | .quiesce => decide (effCount s ≤ 0) && !s.inJob
  | .takeToken => decide (0 < effCount s) && !s.inJob
  | _ => true

/-- **(g2, g3)** the guards on `Ledger` labels -/
def guardL (s : St) : Ledger.Lbl → Bool
  | .expire _ | .tick _ | .istop _ => true
  | .deliverLive _ | .deliverDead _ | .deliverTick _ | .deliverRemove _ => decide (CanReceive s)
  | .runImmediateLive _ | .runImmediateDead _ => inRunAux s
  | .setTimeout | .setInterval | .setImmediate | .setImmediateRefused => codeRunning s
  | .clear i | .clearNoop i => codeRunning s || (decide (TermPhase s) && registered s i)
  | .setTerminated b => decide (b = s.q.terminated)

/-- the receives on `jobChan` -/
def isDelivery : Ledger.Lbl → Bool
  | .deliverLive _ | .deliverDead _ | .deliverTick _ | .deliverRemove _ => true
  | _ => false

/-- the ledger steps that run on the loop goroutine (or on the controller inside Terminate): everything except
    the runtime timer, the ticker, the interval goroutine and the (no-op) flag step -/
def onLoopGoroutine : Ledger.Lbl → Bool
  | .expire _ | .tick _ | .istop _ | .setTerminated _ => false
  | _ => true

/-- **(g3)** what a `Queue` step does to the rest of the state: `start` = `Run(fn)` clears the ledger's copy of
    `terminated` and selects foreground mode, `termFlag` sets the ledger's copy -/
def afterQ (s : St) (a : Queue.Lbl) (q' : Queue.St) : St :=
  match a with
  | .start => { s with q := q', l := { s.l with terminated := false }, bg := false }
  | .termFlag => { s with q := q', l := { s.l with terminated := true } }
  | _ => { s with q := q' }

inductive Lbl where
  | q (a : Queue.Lbl)       -- a step of the queue system; `.q .start` is `Run(fn)`
  | startBg                 -- `Start()` / `StartInForeground()`: `Queue`'s `start`, in background mode
  | l (a : Ledger.Lbl)      -- a step of the ledger
  | jobDone                 -- the closure received from jobChan returns
  deriving Repr, DecidableEq

def stepC (s : St) : Lbl → Option St
  | .q a => if guardQ s a = true then (Queue.stepQ s.q a).map (afterQ s a) else none
  | .startBg =>
    (Queue.stepQ s.q .start).map fun q' => { s with q := q', l := { s.l with terminated := false }, bg := true }
  | .l a =>
    if guardL s a = true then
      (Ledger.stepL s.l a).map fun l' =>
        { s with l := l', inJob := if isDelivery a = true then decide (s.q.lpc = .sel) else s.inJob }
    else none
  | .jobDone => if s.inJob = true then some { s with inJob := false } else none

inductive Reach : St → Prop where
  | init : Reach init
  | step {s t} (a : Lbl) : Reach s → stepC s a = some t → Reach t

def runLabels (s : St) : List Lbl → Option St
  | [] => some s
  | a :: as => (stepC s a).bind fun t => runLabels t as

theorem runLabels_cons {s t : St} {a : Lbl} {as : List Lbl} :
    runLabels s (a :: as) = some t ↔ ∃ u, stepC s a = some u ∧ runLabels u as = some t :=
  Option.bind_eq_some_iff

theorem runLabels_reach (s t : St) (ls : List Lbl) (hs : Reach s) (h : runLabels s ls = some t) : Reach t := by
  induction ls generalizing s with
  | nil => cases h; exact hs
  | cons a as ih =>
    obtain ⟨u, hq, h⟩ := runLabels_cons.mp h
    exact ih u (.step a hs hq) h

theorem stepC_q_eq_some {s t : St} {a : Queue.Lbl} (h : stepC s (.q a) = some t) :
    guardQ s a = true ∧ ∃ q', Queue.stepQ s.q a = some q' ∧ afterQ s a q' = t := by
  simpa only [stepC, Option.ite_none_right_eq_some, Option.map_eq_some_iff] using h

theorem stepC_startBg_eq_some {s t : St} (h : stepC s .startBg = some t) :
    ∃ q', Queue.stepQ s.q .start = some q' ∧
      { s with q := q', l := { s.l with terminated := false }, bg := true } = t := by
  simpa only [stepC, Option.map_eq_some_iff] using h

theorem stepC_l_eq_some {s t : St} {a : Ledger.Lbl} (h : stepC s (.l a) = some t) :
    guardL s a = true ∧ ∃ l', Ledger.stepL s.l a = some l' ∧
      { s with l := l', inJob := if isDelivery a = true then decide (s.q.lpc = .sel) else s.inJob } = t := by
  simpa only [stepC, Option.ite_none_right_eq_some, Option.map_eq_some_iff] using h

theorem stepC_jobDone_eq_some {s t : St} (h : stepC s .jobDone = some t) :
    s.inJob = true ∧ { s with inJob := false } = t := by
  simpa only [stepC, Option.ite_none_right_eq_some, Option.some.injEq] using h

theorem afterQ_q (s : St) (a : Queue.Lbl) (q' : Queue.St) : (afterQ s a q').q = q' := by
  cases a <;> rfl

theorem afterQ_inJob (s : St) (a : Queue.Lbl) (q' : Queue.St) : (afterQ s a q').inJob = s.inJob := by
  cases a <;> rfl

theorem afterQ_l (s : St) (a : Queue.Lbl) (q' : Queue.St) : ∃ b, (afterQ s a q').l = { s.l with terminated := b } := by
  cases a <;> exact ⟨_, rfl⟩

/-- the `Queue` steps inside a combined step: the ledger's steps and `jobDone` leave the queue's state alone -/
def projQ : Lbl → List Queue.Lbl
  | .q a => [a]
  | .startBg => [.start]
  | _ => []

/-- `start` and `termFlag` carry the ledger's flag step (g3) -/
def projL : Lbl → List Ledger.Lbl
  | .q .start | .startBg => [.setTerminated false]
  | .q .termFlag => [.setTerminated true]
  | .l a => [a]
  | _ => []

/-- With the continuation `rest` this rewrites the head of a projected path (`run_projects_to_queue_run`) and, at
    `rest = []`, is the single step (`reach_queue`), without a lemma on `runLabels` of an append. -/
theorem stepC_projQ {s t : St} {a : Lbl} (h : stepC s a = some t) (rest : List Queue.Lbl) :
    Queue.runLabels s.q (projQ a ++ rest) = Queue.runLabels t.q rest := by
  cases a with
  | q a =>
    obtain ⟨_, q', hq, rfl⟩ := stepC_q_eq_some h
    simp [projQ, Queue.runLabels, hq, afterQ_q]
  | startBg =>
    obtain ⟨q', hq, rfl⟩ := stepC_startBg_eq_some h
    simp [projQ, Queue.runLabels, hq]
  | l a =>
    obtain ⟨_, l', _, rfl⟩ := stepC_l_eq_some h
    rfl
  | jobDone =>
    obtain ⟨_, rfl⟩ := stepC_jobDone_eq_some h
    rfl

theorem stepC_projL {s t : St} {a : Lbl} (h : stepC s a = some t) (rest : List Ledger.Lbl) :
    Ledger.runLabels s.l (projL a ++ rest) = Ledger.runLabels t.l rest := by
  cases a with
  | q a =>
    obtain ⟨_, q', _, rfl⟩ := stepC_q_eq_some h
    cases a <;> rfl
  | startBg =>
    obtain ⟨q', _, rfl⟩ := stepC_startBg_eq_some h
    simp [projL, Ledger.runLabels, Ledger.stepL]
  | l a =>
    obtain ⟨_, l', hl, rfl⟩ := stepC_l_eq_some h
    simp [projL, Ledger.runLabels, hl]
  | jobDone =>
    obtain ⟨_, rfl⟩ := stepC_jobDone_eq_some h
    rfl

/-- **Projection to the queue system.**  The guards only remove behaviour, so every invariant of `GN.EventLoop.Queue`
    (FIFO / exactly once, no lost wake-up, the Stop handshake, Terminate's drain of the aux queue) holds of the
    combined system. -/
theorem reach_queue {s : St} (h : Reach s) : Queue.Reach s.q := by
  induction h with
  | init => exact .init
  | step a _ hst ih => exact Queue.runLabels_reach _ _ _ ih (by simpa [Queue.runLabels] using stepC_projQ hst [])

/-- **Projection to the ledger**: likewise for every invariant of `GN.EventLoop.Ledger` (the count is exact, at most
    once, clear wins, the registry matches the goroutines). -/
theorem reach_ledger {s : St} (h : Reach s) : Ledger.Reach s.l := by
  induction h with
  | init => exact .init
  | step a _ hst ih => exact Ledger.runLabels_reach _ _ _ ih (by simpa [Ledger.runLabels] using stepC_projL hst [])

theorem run_projects_to_queue_run (s t : St) (ls : List Lbl) (h : runLabels s ls = some t) :
    Queue.runLabels s.q (ls.flatMap projQ) = some t.q := by
  induction ls generalizing s with
  | nil => cases h; rfl
  | cons a as ih =>
    obtain ⟨u, hq, h⟩ := runLabels_cons.mp h
    rw [List.flatMap_cons, stepC_projQ hq, ih u h]

theorem run_projects_to_ledger_run (s t : St) (ls : List Lbl) (h : runLabels s ls = some t) :
    Ledger.runLabels s.l (ls.flatMap projL) = some t.l := by
  induction ls generalizing s with
  | nil => cases h; rfl
  | cons a as ih =>
    obtain ⟨u, hq, h⟩ := runLabels_cons.mp h
    rw [List.flatMap_cons, stepC_projL hq, ih u h]

/-- Nothing more has to be carried along the paths of the combined system: every other coupling fact below is read
    off a guard in the state it speaks of, with invariants of the two components (`reach_queue`, `reach_ledger`). -/
def CInv (s : St) : Prop := s.l.terminated = s.q.terminated ∧ (s.inJob = true → s.q.lpc = .sel)

theorem cinv_step {s t : St} {a : Lbl} (h : stepC s a = some t) (hi : CInv s) : CInv t := by
  obtain ⟨i1, i2⟩ := hi
  cases a with
  | q a =>
    obtain ⟨hg, q', hq, rfl⟩ := stepC_q_eq_some h
    refine ⟨?_, ?_⟩
    · rw [afterQ_q, Queue.stepQ_terminated hq]
      cases a
      case start | termFlag => rfl
      all_goals exact i1
    · rw [afterQ_q, afterQ_inJob]
      intro hj
      -- inside a job the guards refuse the two steps that leave the select
      refine Queue.stepQ_sel_stays hq (i2 hj) ?_ ?_
      · rintro rfl; simp [guardQ, hj] at hg
      · rintro rfl; simp [guardQ, hj] at hg
  | startBg =>
    obtain ⟨q', hq, rfl⟩ := stepC_startBg_eq_some h
    exact ⟨(Queue.stepQ_terminated hq).symm, fun hj => Queue.stepQ_sel_stays hq (i2 hj) nofun nofun⟩
  | l a =>
    obtain ⟨hg, l', hl, rfl⟩ := stepC_l_eq_some h
    refine ⟨?_, ?_⟩
    · rw [Ledger.stepL_terminated hl]
      cases a
      case setTerminated b => exact of_decide_eq_true hg
      all_goals exact i1
    · simp only
      split
      · exact of_decide_eq_true
      · exact i2
  | jobDone =>
    obtain ⟨_, rfl⟩ := stepC_jobDone_eq_some h
    exact ⟨i1, nofun⟩

theorem reach_cinv {s : St} (h : Reach s) : CInv s := by
  induction h with
  | init => simp [CInv, init]
  | step a _ hst ih => exact cinv_step hst ih

/-- **(g3) One flag**: Terminate sets both copies of `terminated`, Start / Run clear both. -/
theorem terminated_flags_agree {s : St} (h : Reach s) : s.l.terminated = s.q.terminated := (reach_cinv h).1

theorem count_nonneg {s : St} (h : Reach s) : 0 ≤ s.l.jobCount := by
  rw [Ledger.count_exact (reach_ledger h)]; omega

theorem sel_running {s : St} (h : Reach s) (hsel : s.q.lpc = .sel) : s.q.running = true := by
  cases hr : s.q.running
  · simpa [hsel] using (reach_queue h).invStop.stopped_iff.mpr hr
  · rfl

theorem effCount_le_zero_iff {s : St} (h : Reach s) : effCount s ≤ 0 ↔ s.bg = false ∧ s.l.jobCount = 0 := by
  have := count_nonneg h
  unfold effCount
  cases hb : s.bg <;> simp <;> omega

theorem guardL_delivery {s : St} {a : Ledger.Lbl} (hd : isDelivery a = true) : guardL s a = decide (CanReceive s) := by
  cases a <;> first | rfl | cases hd

theorem guardL_at_select {s : St} (hsel : AtSelect s) {a : Ledger.Lbl} (hg : guardL s a = true) :
    onLoopGoroutine a = false ∨ isDelivery a = true := by
  obtain ⟨hl, hj⟩ := hsel
  cases a <;> simp_all [guardL, codeRunning, inRunAux, TermPhase, onLoopGoroutine, isDelivery]

/-- **Run() returns never earlier.**  The loop leaves `run()` because nothing is left (`quiesce`) only from its
    select, outside any delivered job, when it was started with `Run` (foreground) and every job ever set has fired
    (timeout, immediate), was cleared, or was cancelled by Terminate. -/
theorem run_returns_never_earlier {s t : St} (hr : Reach s) (h : stepC s (.q .quiesce) = some t) :
    AtSelect s ∧ s.bg = false ∧ s.l.jobCount = 0 ∧ ∀ j ∈ s.l.jobs, j.cancelled = true := by
  obtain ⟨hg, q', hq, _⟩ := stepC_q_eq_some h
  simp only [guardQ, Bool.and_eq_true, decide_eq_true_eq, Bool.not_eq_true'] at hg
  obtain ⟨hbg, h0⟩ := (effCount_le_zero_iff hr).mp hg.1
  exact ⟨⟨(Queue.stepQ_eq_some hq).1, hg.2⟩, hbg, h0, (Ledger.quiescent_iff (reach_ledger hr)).mp h0⟩

/-- **… contrapositive**: while some job is live the loop cannot leave `run()` through `quiesce`. -/
theorem run_does_not_return_while_a_job_is_live {s : St} (hr : Reach s) {j : Ledger.Job} (hj : j ∈ s.l.jobs)
    (hc : j.cancelled = false) : stepC s (.q .quiesce) = none :=
  Option.eq_none_iff_forall_ne_some.mpr fun t h => by
    simpa [hc] using (run_returns_never_earlier hr h).2.2.2 j hj

/-- **… and always then.**  At the select of a foreground loop with every job cancelled, `quiesce` is enabled, and
    after it the loop's `exit` (clear `running`, broadcast) unless Stop holds `stopLock` right now (`cpc = stored`);
    the wake-up arm of the select is not enabled (the `for` condition is checked first), nor is any ledger step of
    the loop goroutine.  A runtime timer can still expire and a ticker can still tick; nobody receives what they send. -/
theorem run_returns_always_then {s : St} (hr : Reach s) (hsel : AtSelect s) (hbg : s.bg = false)
    (hall : ∀ j ∈ s.l.jobs, j.cancelled = true) :
    (∃ t, stepC s (.q .quiesce) = some t ∧ t.q.lpc = .exit ∧ t.l = s.l ∧
      (t.q.cpc ≠ .stored → ∃ u, stepC t (.q .exit) = some u ∧ u.q.running = false ∧ u.q.lpc = .idle ∧ u.l = s.l)) ∧
    stepC s (.q .takeToken) = none ∧
    (∀ a, onLoopGoroutine a = true → stepC s (.l a) = none) := by
  have ⟨hl, hj⟩ := hsel
  have h0 : s.l.jobCount = 0 := (Ledger.quiescent_iff (reach_ledger hr)).mpr hall
  have he : effCount s = 0 := by simp [effCount, hbg, h0]
  refine ⟨⟨{ s with q := { s.q with lpc := .exit } }, ?_, rfl, rfl, ?_⟩, ?_, ?_⟩
  · simp [stepC, guardQ, he, hj, Queue.stepQ, hl, afterQ]
  · intro (hc : s.q.cpc ≠ .stored)
    refine ⟨{ s with q := { s.q with lpc := .idle, running := false,
                                     cpc := if s.q.cpc = .waiting then .out else s.q.cpc } }, ?_, rfl, rfl, rfl⟩
    simp [stepC, guardQ, Queue.stepQ, hc, afterQ]
  · simp [stepC, guardQ, he]
  · intro a ha
    have hrc : ¬ CanReceive s := by simp [CanReceive, TermPhase, he, hl]
    simp only [stepC, ite_eq_right_iff]
    intro hg
    rcases guardL_at_select hsel hg with h1 | h1
    · rw [ha] at h1
      cases h1
    · simp [guardL_delivery h1, hrc] at hg

/-- **Run() returns exactly at quiescence**: `run_returns_never_earlier` and `run_returns_always_then` in one. -/
theorem quiesce_enabled_iff {s : St} (hr : Reach s) :
    (stepC s (.q .quiesce)).isSome = true ↔ AtSelect s ∧ s.bg = false ∧ ∀ j ∈ s.l.jobs, j.cancelled = true := by
  constructor
  · intro h
    obtain ⟨t, ht⟩ := Option.isSome_iff_exists.mp h
    obtain ⟨a, b, _, d⟩ := run_returns_never_earlier hr ht
    exact ⟨a, b, d⟩
  · rintro ⟨a, b, c⟩
    obtain ⟨⟨t, ht, _⟩, _⟩ := run_returns_always_then hr a b c
    simp [ht]

theorem no_runAux_step {s : St} (h : inRunAux s = false) :
    stepC s (.q .execOne) = none ∧ stepC s (.q .termExecOne) = none ∧
    (∀ i, stepC s (.l (.runImmediateLive i)) = none ∧ stepC s (.l (.runImmediateDead i)) = none) := by
  refine ⟨?_, ?_, fun i => by simp [stepC, guardL, h]⟩
  all_goals
    cases hl : s.q.lpc <;> simp [inRunAux, hl] at h
    all_goals simp [stepC, Queue.stepQ, hl]

/-- **A job received from `jobChan` and a batch of queued functions are never in progress together.**  While the loop
    goroutine is inside a delivered job no `runAux` is in progress (neither the loop's nor Terminate's), and neither
    a step of the loop's own cycle (swap, execute, take the token, leave) nor a second delivery nor an immediate is
    enabled. -/
theorem job_callback_excludes_runAux {s : St} (hr : Reach s) (hj : s.inJob = true) :
    s.q.lpc = .sel ∧ s.q.running = true ∧ inRunAux s = false ∧
    stepC s (.q .execOne) = none ∧ stepC s (.q .termExecOne) = none ∧ stepC s (.q .swap) = none ∧
    stepC s (.q .quiesce) = none ∧ stepC s (.q .takeToken) = none ∧
    (∀ a, isDelivery a = true → stepC s (.l a) = none) ∧
    (∀ i, stepC s (.l (.runImmediateLive i)) = none ∧ stepC s (.l (.runImmediateDead i)) = none) := by
  have hl := (reach_cinv hr).2 hj
  have hra : inRunAux s = false := by simp [inRunAux, hl]
  have hrc : ¬ CanReceive s := by simp [CanReceive, hj]
  obtain ⟨h1, h2, h3⟩ := no_runAux_step hra
  refine ⟨hl, sel_running hr hl, hra, h1, h2, ?_, ?_, ?_, fun a ha => ?_, h3⟩
  · simp [stepC, guardQ, Queue.stepQ, hl]
  · simp [stepC, guardQ, hj]
  · simp [stepC, guardQ, hj]
  · simp [stepC, guardL_delivery ha, hrc]

/-- **… as enabledness**, in every state, reachable or not: a receive on `jobChan` and the execution of a queued
    function (an immediate is one) are never both enabled. -/
theorem delivery_and_exec_never_both_enabled (s : St) (a : Ledger.Lbl) (hd : isDelivery a = true)
    (h : (stepC s (.l a)).isSome = true) :
    stepC s (.q .execOne) = none ∧ stepC s (.q .termExecOne) = none ∧
    (∀ i, stepC s (.l (.runImmediateLive i)) = none ∧ stepC s (.l (.runImmediateDead i)) = none) := by
  obtain ⟨t, ht⟩ := Option.isSome_iff_exists.mp h
  obtain ⟨hg, _⟩ := stepC_l_eq_some ht
  obtain ⟨-, ⟨hl, -⟩ | ⟨⟨-, hl⟩, -⟩⟩ : CanReceive s := by simpa [guardL_delivery hd] using hg
  · exact no_runAux_step (by simp [inRunAux, hl])
  · exact no_runAux_step (by simp [inRunAux, hl])

/-- **(g2, read back.)** A receive on `jobChan` happens only at the select of a running loop whose count is
    positive, or in Terminate's drain after the cancel loop. -/
theorem delivery_only_at_select_or_in_drain {s t : St} (hr : Reach s) {a : Ledger.Lbl} (hd : isDelivery a = true)
    (h : stepC s (.l a) = some t) :
    (AtSelect s ∧ s.q.running = true ∧ 0 < effCount s ∧ t.inJob = true) ∨
    (TermPhase s ∧ RegisteredAllCancelled s ∧ s.q.running = false ∧ t.inJob = false) := by
  obtain ⟨hg, l', _, rfl⟩ := stepC_l_eq_some h
  have hrc : CanReceive s := by simpa [guardL_delivery hd] using hg
  obtain ⟨hj, ⟨hl, hc⟩ | ⟨htp, hrac⟩⟩ := hrc
  · exact .inl ⟨⟨hl, hj⟩, sel_running hr hl, hc, by simp [hd, hl]⟩
  · refine .inr ⟨htp, hrac, ?_, by simp [hd, htp.2]⟩
    exact ((reach_queue hr).invTerm.terminated htp.1).1

/-- **Terminate's drain runs no callback.**  A receive on `jobChan` in Terminate's phase makes no job fire (the
    cancel loop has cancelled every registered job before the first receive) and is atomic (`inJob` stays false). -/
theorem drain_runs_no_callback {s t : St} (hr : Reach s) (htp : TermPhase s) {a : Ledger.Lbl}
    (hd : isDelivery a = true) (h : stepC s (.l a) = some t) :
    t.inJob = false ∧ ∀ (i : Nat) (j j' : Ledger.Job), s.l.jobs[i]? = some j → t.l.jobs[i]? = some j' →
      j'.fired = j.fired := by
  rcases delivery_only_at_select_or_in_drain hr hd h with ⟨⟨h1, _⟩, _⟩ | ⟨_, hrac, _, hin⟩
  · rw [htp.2] at h1
    cases h1
  refine ⟨hin, fun i j j' hs ht => ?_⟩
  obtain ⟨_, l', hl, rfl⟩ := stepC_l_eq_some h
  have hreg := Ledger.registry_matches_goroutines (reach_ledger hr)
  -- the job that is delivered is registered, hence cancelled already, and delivering a cancelled job does not fire it
  have key : ∀ {k : Nat} {jk : Ledger.Job} {f : Ledger.Job → Ledger.Job}, s.l.jobs[k]? = some jk → jk.inJobs = true →
      (jk.cancelled = true → (f jk).fired = jk.fired) → (s.l.upd k f).jobs[i]? = some j' → j'.fired = j.fired := by
    intro k jk f hk hin hf ht
    obtain ⟨j1, h1, h2⟩ := Ledger.upd_at (P := fun x => x.fired = j.fired) f hk hs (fun _ => rfl)
      fun _ e => e ▸ hf (hrac _ (List.mem_of_getElem? hk) hin)
    cases h1.symm.trans ht
    exact h2
  cases a <;> simp only [isDelivery, reduceCtorEq] at hd
  all_goals
    obtain ⟨jk, hk, hc, rfl⟩ := Ledger.stepL_eq_some hl
    have hg := hreg jk (List.mem_of_getElem? hk)
  case deliverLive => exact key hk ((hg.1 hc.1).mpr (.inr hc.2.1)) (fun h => by simp [hc.2.2] at h) ht
  case deliverDead => exact key hk ((hg.1 hc.1).mpr (.inr hc.2.1)) (fun _ => rfl) ht
  case deliverTick => exact key hk ((hg.2.1 hc.1).mpr (.inr (.inl hc.2))) (fun h => by simp [h]) ht
  case deliverRemove => exact key hk ((hg.2.1 hc.1).mpr (.inr (.inr hc.2))) (fun _ => rfl) ht

/-- **The loop is not waiting in vain.**  At the select a live timeout or interval keeps the loop from leaving and
    has an enabled step of its own: its timer can expire, its ticker can tick, or the loop can receive its delivery
    right now. -/
theorem live_timer_has_enabled_step_at_select {s : St} (hr : Reach s) (hsel : AtSelect s) {i : Nat}
    {j : Ledger.Job} (hj : s.l.jobs[i]? = some j) (hk : j.kind ≠ .immediate) (hc : j.cancelled = false) :
    stepC s (.q .quiesce) = none ∧
    ∃ a, (a = .expire i ∨ a = .deliverLive i ∨ a = .tick i ∨ a = .deliverTick i) ∧
      (stepC s (.l a)).isSome = true := by
  have hmem := List.mem_of_getElem? hj
  refine ⟨run_does_not_return_while_a_job_is_live hr hmem hc, ?_⟩
  have hpos : 0 < effCount s := Int.not_le.mp fun h => by
    simpa [hc] using (Ledger.quiescent_iff (reach_ledger hr)).mp ((effCount_le_zero_iff hr).mp h).2 j hmem
  have hrc : CanReceive s := ⟨hsel.2, .inl ⟨hsel.1, hpos⟩⟩
  obtain ⟨a, ha, hen, him⟩ := Ledger.live_job_has_step (reach_ledger hr) hj hc
  obtain ⟨t, ht⟩ := Option.isSome_iff_exists.mp hen
  rcases ha with rfl | rfl | rfl | rfl | rfl
  · exact ⟨.expire i, by simp, by simp [stepC, guardL, ht]⟩
  · exact ⟨.deliverLive i, by simp, by simp [stepC, guardL, hrc, ht]⟩
  · exact absurd (him rfl) hk
  · exact ⟨.tick i, by simp, by simp [stepC, guardL, ht]⟩
  · exact ⟨.deliverTick i, by simp, by simp [stepC, guardL, hrc, ht]⟩

/-- **The count does not move under a parked loop**, except by the loop's own receives on `jobChan`.  This is what
    justifies reading `Queue.LPc.sel` as both the test `jobCount > 0` at the head of the `for` and the `select`
    inside it. -/
theorem count_stable_at_select {s t : St} (hsel : AtSelect s) {a : Lbl} (h : stepC s a = some t)
    (hne : t.l.jobCount ≠ s.l.jobCount) : ∃ b, a = .l b ∧ isDelivery b = true := by
  cases a with
  | q a =>
    obtain ⟨_, q', _, rfl⟩ := stepC_q_eq_some h
    obtain ⟨b, h1⟩ := afterQ_l s a q'
    rw [h1] at hne
    exact absurd rfl hne
  | startBg => obtain ⟨q', _, rfl⟩ := stepC_startBg_eq_some h; exact absurd rfl hne
  | jobDone => obtain ⟨_, rfl⟩ := stepC_jobDone_eq_some h; exact absurd rfl hne
  | l b =>
    refine ⟨b, rfl, ?_⟩
    obtain ⟨hg, l', hl', rfl⟩ := stepC_l_eq_some h
    refine (guardL_at_select hsel hg).resolve_left fun h1 => hne ?_
    -- the timer, ticker and interval goroutines and the flag step leave the count alone
    cases b <;> simp only [onLoopGoroutine, reduceCtorEq] at h1
    case setTerminated =>
      cases hl'
      rfl
    all_goals
      obtain ⟨j, -, -, rfl⟩ := Ledger.stepL_eq_some hl'
      rfl

def Step (s t : St) : Prop := ∃ a, stepC s a = some t

/-- non-vacuity.  `Run(fn)` with one timeout, start to finish: `fn` sets the timeout between `setRunning` and `run`;
    `quiesce` is accepted once the delivered job has returned -/
example :
    (runLabels init [.q .start, .l .setTimeout, .q .swap, .q .execDone, .l (.expire 0), .l (.deliverLive 0),
        .jobDone, .q .quiesce, .q .exit]).map
      (fun s => ((s.q.lpc, s.q.running, s.inJob), s.l.jobCount, s.l.jobs.map (fun j => (j.inJobs, j.fired))))
    = some ((.idle, false, false), 0, [(false, 1)]) := by decide +kernel

/-- `quiesce` is refused while the timeout is live: right after the first `runAux`; after the timer expired but
    before the loop received the delivery; and after the delivery while the callback is still running -/
example :
    (runLabels init [.q .start, .l .setTimeout, .q .swap, .q .execDone, .q .quiesce]).isNone = true ∧
    (runLabels init [.q .start, .l .setTimeout, .q .swap, .q .execDone, .l (.expire 0), .q .quiesce]).isNone = true ∧
    (runLabels init [.q .start, .l .setTimeout, .q .swap, .q .execDone, .l (.expire 0), .l (.deliverLive 0),
        .q .quiesce]).isNone = true := by decide +kernel

/-- a callback that sets the next timeout keeps `Run` alive: `quiesce` is refused after the first job returns and
    accepted after the second -/
example :
    (runLabels init [.q .start, .l .setTimeout, .q .swap, .q .execDone, .l (.expire 0), .l (.deliverLive 0),
        .l .setTimeout, .jobDone, .q .quiesce]).isNone = true ∧
    (runLabels init [.q .start, .l .setTimeout, .q .swap, .q .execDone, .l (.expire 0), .l (.deliverLive 0),
        .l .setTimeout, .jobDone, .l (.expire 1), .l (.deliverLive 1), .jobDone, .q .quiesce, .q .exit]).map
      (fun s => (s.q.running, s.l.jobCount, s.l.jobs.map (·.fired))) = some (false, 0, [1, 1]) := by decide +kernel

/-- the guards of (g2) bite: nobody can set a timeout while the loop is parked at its select; a delivery is not
    received while a batch of queued functions is being executed; an immediate does not run at the select -/
example :
    (runLabels init [.q .start, .q .swap, .q .execDone, .l .setTimeout]).isNone = true ∧
    (runLabels init [.q (.enqueue 7), .q .wake, .q .start, .l .setTimeout, .l (.expire 0), .q .swap,
        .l (.deliverLive 0)]).isNone = true ∧
    (runLabels init [.q (.enqueue 7), .q .wake, .q .start, .q .swap, .q .execOne, .l .setImmediate, .q .execDone,
        .l (.runImmediateLive 0)]).isNone = true := by decide +kernel

/-- a queued function, an immediate and a timeout in one `Run`: function 7 (queued before `Run`) sets an immediate
    (job 1) in the first `runAux`; it runs in the second, after the timeout (job 0) was delivered at the select -/
example :
    (runLabels init [.q (.enqueue 7), .q .wake, .q .start, .l .setTimeout, .l (.expire 0), .q .swap, .q .execOne,
        .l .setImmediate, .q .execDone, .l (.deliverLive 0), .jobDone, .q .takeToken, .q .swap,
        .l (.runImmediateLive 1), .q .execDone, .q .chk, .q .quiesce, .q .exit]).map
      (fun s => (s.q.running, s.q.executed, s.l.jobCount, s.l.jobs.map (·.fired))) = some (false, [7], 0, [1, 1]) := by
  decide +kernel

/-- background mode (`Start()`): with no job at all `quiesce` is refused — the loop only leaves through Stop -/
example :
    (runLabels init [.startBg, .q .swap, .q .execDone, .q .quiesce]).isNone = true ∧
    (runLabels init [.startBg, .q .swap, .q .execDone, .q .stopStore, .q .stopWake, .q .takeToken, .q .swap,
        .q .execDone, .q .chk, .q .exit]).map (fun s => (s.q.lpc, s.q.running, s.q.cpc)) = some (.idle, false, .out) := by
  decide +kernel

/-- Terminate (g3) after Stop, with an interval (job 0) whose tick is in flight and a timeout (job 1) still armed:
    nothing fires, nothing stays registered, count 0.  A receive before the cancel loop is through is refused, and
    so is a receive by a loop that is merely stopped. -/
example :
    (runLabels init [.startBg, .q (.enqueue 1), .q .wake, .q .swap, .q .execOne, .l .setInterval, .l .setTimeout,
        .q .execDone, .l (.tick 0), .q .stopStore, .q .stopWake, .q .takeToken, .q .swap, .q .execDone, .q .chk, .q .exit,
        .q .termFlag, .q .termSwap, .q .termExecDone, .l (.clear 0), .l (.clear 1), .l (.deliverTick 0), .l (.istop 0),
        .l (.deliverRemove 0)]).map
      (fun s => (s.q.terminated, s.l.terminated, s.l.jobCount, s.l.jobs.map (fun j => (j.inJobs, j.fired))))
    = some (true, true, 0, [(false, 0), (false, 0)]) ∧
    (runLabels init [.startBg, .q (.enqueue 1), .q .wake, .q .swap, .q .execOne, .l .setInterval, .l .setTimeout,
        .q .execDone, .l (.tick 0), .q .stopStore, .q .stopWake, .q .takeToken, .q .swap, .q .execDone, .q .chk, .q .exit,
        .q .termFlag, .q .termSwap, .q .termExecDone, .l (.clear 0), .l (.deliverTick 0)]).isNone = true ∧
    (runLabels init [.startBg, .q (.enqueue 1), .q .wake, .q .swap, .q .execOne, .l .setInterval, .l .setTimeout,
        .q .execDone, .l (.tick 0), .q .stopStore, .q .stopWake, .q .takeToken, .q .swap, .q .execDone, .q .chk, .q .exit,
        .l (.deliverTick 0)]).isNone = true := by decide +kernel

/-- the hypotheses of `run_returns_always_then`, `live_timer_has_enabled_step_at_select` and
    `job_callback_excludes_runAux` are satisfiable by reachable states -/
example :
    (∃ s, Reach s ∧ AtSelect s ∧ s.bg = false ∧ s.l.jobs.length = 1 ∧ ∀ j ∈ s.l.jobs, j.cancelled = true) ∧
    (∃ s j, Reach s ∧ AtSelect s ∧ s.l.jobs[0]? = some j ∧ j.kind ≠ .immediate ∧ j.cancelled = false) ∧
    (∃ s, Reach s ∧ s.inJob = true) :=
  ⟨⟨_, runLabels_reach init _ [.q .start, .l .setTimeout, .q .swap, .q .execDone, .l (.expire 0), .l (.deliverLive 0),
        .jobDone] .init rfl,
      ⟨by decide +kernel, by decide +kernel⟩, by decide +kernel, by decide +kernel, by decide +kernel⟩,
    ⟨_, _, runLabels_reach init _ [.q .start, .l .setTimeout, .q .swap, .q .execDone, .l (.expire 0)] .init rfl,
      ⟨by decide +kernel, by decide +kernel⟩, rfl, by decide +kernel, by decide +kernel⟩,
    ⟨_, runLabels_reach init _ [.q .start, .l .setTimeout, .q .swap, .q .execDone, .l (.expire 0), .l (.deliverLive 0)]
        .init rfl,
      by decide +kernel⟩⟩

end GN.EventLoop.Combined
