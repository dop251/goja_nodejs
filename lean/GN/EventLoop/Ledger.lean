/-!
# Event loop — the job ledger: per-job state, the live-job counter, the registry, the goroutines   [C05, C06, C08]

The companion of `GN.EventLoop.Queue` for the jobs of `eventloop/eventloop.go`: timeouts, intervals and
immediates.  A state is the list of every job ever set (a job's index in the list is its identity; the list
only grows), the counter `loop.jobCount`, and the `terminated` flag.  Per job we keep

* `cancelled` — the Go field `job.cancelled`,
* `inJobs`    — the job is in the registry `loop.jobs` (`job.idx ≥ 0`),
* `g`         — where the job's goroutine / runtime timer is:
  timeout: `armed` (the `time.AfterFunc` timer is pending), `sending` (the timer expired, its goroutine is
  sending `doTimeout` on `jobChan`), `done` (stopped by `timer.Stop()`, or `doTimeout` was received);
  interval: `iwait` (`(*Interval).run` at its select), `itick` (sending `doInterval`), `iremove` (left the
  loop after `stopChan` was closed, sending the `removeJob` closure), `idone`;
  immediate: `queued` (`doImmediate` is in the aux queue), `ran`,
* ghosts `fired` (how many times the callback started) and `cleared0` (a clear hit the job before it ever fired).

Transitions (every interleaving of the loop, the timer goroutines and the interval goroutines is a path):
`schedule` / the closures of `SetTimeout`, `SetInterval` (`setTimeout`, `setInterval`), `setImmediate`
(accepted only while not terminated; a refused one is not counted), the runtime timer expiring (`expire`),
the loop or Terminate's drain receiving `doTimeout` (`deliverLive` / `deliverDead`: fires iff not cancelled),
`clearTimeout` / `clearInterval` / `clearImmediate` and one iteration of Terminate's cancel loop on a job that
is not yet cancelled (`clear`; all of them set `cancelled` and decrement `jobCount`; a timeout whose timer
could still be stopped is removed from the registry on the spot) or already cancelled (`clearNoop`), the ticker
(`tick`, `deliverTick`), the interval goroutine seeing `stopChan` closed (`istop`) and its `removeJob` closure
being received (`deliverRemove`), `doImmediate` (`runImmediateLive` / `runImmediateDead`), and the flag.
-/

namespace GN.EventLoop.Ledger

inductive JKind where | timeout | interval | immediate
  deriving DecidableEq, Repr

inductive GSt where
  | armed | sending | done                    -- timeout: runtime timer / its goroutine
  | iwait | itick | iremove | idone           -- interval goroutine
  | queued | ran                              -- immediate (lives in the aux queue)
  deriving DecidableEq, Repr

structure Job where
  kind      : JKind
  cancelled : Bool
  inJobs    : Bool      -- registered in loop.jobs
  g         : GSt
  fired     : Nat       -- ghost: number of times the callback began
  cleared0  : Bool      -- ghost: a clear executed while fired = 0
  deriving DecidableEq, Repr

structure St where
  jobs       : List Job := []
  jobCount   : Int := 0
  terminated : Bool := false
  deriving DecidableEq, Repr

/-- a job counts as live while it was set and is not cancelled (a timeout / immediate that fires is
    cancelled by its own delivery) -/
def live (j : Job) : Bool := !j.cancelled

def St.upd (s : St) (i : Nat) (f : Job → Job) : St := { s with jobs := s.jobs.modify i f }

/-- what `clearTimeout` / `clearInterval` / `clearImmediate` / Terminate's cancel loop do to a job that is not
    yet cancelled: set `cancelled`; a timeout whose timer is still pending is stopped (`timer.Stop()` = true)
    and removed from the registry at once; every other goroutine finishes on its own later.
    (The accompanying `jobCount--` is in the `clear` transition.) -/
def cancelJob (j : Job) : Job :=
  match j.kind, j.g with
  | .timeout, .armed =>
      { j with cancelled := true, g := .done, inJobs := false, cleared0 := j.cleared0 || j.fired == 0 }
  | _, _ => { j with cancelled := true, cleared0 := j.cleared0 || j.fired == 0 }

inductive Step : St → St → Prop where
  | setTimeout (s : St) :
      Step s { s with jobs := s.jobs ++ [⟨.timeout, false, true, .armed, 0, false⟩], jobCount := s.jobCount + 1 }
  | setInterval (s : St) :
      Step s { s with jobs := s.jobs ++ [⟨.interval, false, true, .iwait, 0, false⟩], jobCount := s.jobCount + 1 }
  | setImmediate (s : St) (h : s.terminated = false) :
      Step s { s with jobs := s.jobs ++ [⟨.immediate, false, false, .queued, 0, false⟩], jobCount := s.jobCount + 1 }
  | setImmediateRefused (s : St) (h : s.terminated = true) : Step s s
  | expire (s : St) (i : Nat) (j : Job) (h : s.jobs[i]? = some j) (hk : j.kind = .timeout) (hg : j.g = .armed) :
      Step s (s.upd i fun j => { j with g := .sending })
  | deliverLive (s : St) (i : Nat) (j : Job) (h : s.jobs[i]? = some j) (hk : j.kind = .timeout) (hg : j.g = .sending)
      (hc : j.cancelled = false) :
      Step s { (s.upd i fun j => { j with g := .done, inJobs := false, cancelled := true, fired := j.fired + 1 })
               with jobCount := s.jobCount - 1 }
  | deliverDead (s : St) (i : Nat) (j : Job) (h : s.jobs[i]? = some j) (hk : j.kind = .timeout) (hg : j.g = .sending)
      (hc : j.cancelled = true) :
      Step s (s.upd i fun j => { j with g := .done, inJobs := false })
  | clear (s : St) (i : Nat) (j : Job) (h : s.jobs[i]? = some j) (hc : j.cancelled = false) :
      Step s { (s.upd i cancelJob) with jobCount := s.jobCount - 1 }
  | clearNoop (s : St) (i : Nat) (j : Job) (h : s.jobs[i]? = some j) (hc : j.cancelled = true) : Step s s
  | tick (s : St) (i : Nat) (j : Job) (h : s.jobs[i]? = some j) (hk : j.kind = .interval) (hg : j.g = .iwait) :
      Step s (s.upd i fun j => { j with g := .itick })
  | deliverTick (s : St) (i : Nat) (j : Job) (h : s.jobs[i]? = some j) (hk : j.kind = .interval) (hg : j.g = .itick) :
      Step s (s.upd i fun j => { j with g := .iwait, fired := if j.cancelled then j.fired else j.fired + 1 })
  | istop (s : St) (i : Nat) (j : Job) (h : s.jobs[i]? = some j) (hk : j.kind = .interval) (hg : j.g = .iwait)
      (hc : j.cancelled = true) :
      Step s (s.upd i fun j => { j with g := .iremove })
  | deliverRemove (s : St) (i : Nat) (j : Job) (h : s.jobs[i]? = some j) (hk : j.kind = .interval) (hg : j.g = .iremove) :
      Step s (s.upd i fun j => { j with g := .idone, inJobs := false })
  | runImmediateLive (s : St) (i : Nat) (j : Job) (h : s.jobs[i]? = some j) (hk : j.kind = .immediate) (hg : j.g = .queued)
      (hc : j.cancelled = false) :
      Step s { (s.upd i fun j => { j with g := .ran, cancelled := true, fired := j.fired + 1 })
               with jobCount := s.jobCount - 1 }
  | runImmediateDead (s : St) (i : Nat) (j : Job) (h : s.jobs[i]? = some j) (hk : j.kind = .immediate) (hg : j.g = .queued)
      (hc : j.cancelled = true) :
      Step s (s.upd i fun j => { j with g := .ran })
  | setTerminated (s : St) (b : Bool) : Step s { s with terminated := b }

def init : St := {}

inductive Reach : St → Prop where
  | init : Reach init
  | step {s t} : Reach s → Step s t → Reach t

def JobOK (j : Job) : Prop :=
  -- registry: exactly the timers/intervals whose goroutine has not finished are in loop.jobs
  (j.kind = .timeout → (j.inJobs = true ↔ (j.g = .armed ∨ j.g = .sending)) ∧ (j.g = .armed ∨ j.g = .sending ∨ j.g = .done)) ∧
  (j.kind = .interval → (j.inJobs = true ↔ (j.g = .iwait ∨ j.g = .itick ∨ j.g = .iremove)) ∧
                        (j.g = .iwait ∨ j.g = .itick ∨ j.g = .iremove ∨ j.g = .idone) ∧
                        (j.g = .iremove ∨ j.g = .idone → j.cancelled = true)) ∧
  (j.kind = .immediate → j.inJobs = false ∧ (j.g = .queued ∨ j.g = .ran) ∧ (j.g = .ran → j.cancelled = true)) ∧
  (j.kind ≠ .interval → j.fired ≤ 1 ∧ (j.fired = 1 → j.cancelled = true)) ∧
  (j.kind = .timeout → j.g = .done → j.cancelled = true) ∧
  (j.cleared0 = true → j.fired = 0 ∧ j.cancelled = true)

theorem JobOK.timeout {j} (h : JobOK j) (hk : j.kind = .timeout) :
    (j.inJobs = true ↔ (j.g = .armed ∨ j.g = .sending)) ∧ (j.g = .armed ∨ j.g = .sending ∨ j.g = .done) := h.1 hk

theorem JobOK.interval {j} (h : JobOK j) (hk : j.kind = .interval) :
    (j.inJobs = true ↔ (j.g = .iwait ∨ j.g = .itick ∨ j.g = .iremove)) ∧
    (j.g = .iwait ∨ j.g = .itick ∨ j.g = .iremove ∨ j.g = .idone) ∧
    (j.g = .iremove ∨ j.g = .idone → j.cancelled = true) := h.2.1 hk

theorem JobOK.immediate {j} (h : JobOK j) (hk : j.kind = .immediate) :
    j.inJobs = false ∧ (j.g = .queued ∨ j.g = .ran) ∧ (j.g = .ran → j.cancelled = true) := h.2.2.1 hk

theorem JobOK.oneshot {j} (h : JobOK j) (hk : j.kind ≠ .interval) : j.fired ≤ 1 ∧ (j.fired = 1 → j.cancelled = true) :=
  h.2.2.2.1 hk

theorem JobOK.timeout_done {j} (h : JobOK j) (hk : j.kind = .timeout) (hg : j.g = .done) : j.cancelled = true :=
  h.2.2.2.2.1 hk hg

theorem JobOK.cleared {j} (h : JobOK j) (hc : j.cleared0 = true) : j.fired = 0 ∧ j.cancelled = true := h.2.2.2.2.2 hc

/-- the counter the code only increments and decrements is the number of jobs not yet cancelled -/
def LInv (s : St) : Prop :=
  (∀ j ∈ s.jobs, JobOK j) ∧ s.jobCount = (s.jobs.countP live : Nat)

theorem modify_split {l : List Job} {i : Nat} {j : Job} (f : Job → Job) (h : l[i]? = some j) :
    ∃ xs ys, l = xs ++ j :: ys ∧ l.modify i f = xs ++ f j :: ys := by
  obtain ⟨hi, rfl⟩ := List.getElem?_eq_some_iff.mp h
  exact ⟨l.take i, l.drop (i + 1), by simp, List.modify_eq_take_cons_drop hi⟩

/-- `hc`: `jobCount` follows the job's liveness; it is `rfl` when `f` leaves `cancelled` alone -/
theorem upd_inv {s : St} {i : Nat} {j : Job} {f : Job → Job} {c : Int} (hi : LInv s) (hget : s.jobs[i]? = some j)
    (hok : JobOK j → JobOK (f j))
    (hc : c + (if live j then 1 else 0 : Nat) = s.jobCount + (if live (f j) then 1 else 0 : Nat)) :
    LInv { (s.upd i f) with jobCount := c } := by
  obtain ⟨xs, ys, e1, e2⟩ := modify_split f hget
  simp only [LInv, St.upd, e2]
  simp only [LInv, e1] at hi
  simp only [List.forall_mem_append, List.forall_mem_cons, List.countP_append, List.countP_cons] at hi ⊢
  exact ⟨⟨hi.1.1, hok hi.1.2.1, hi.1.2.2⟩, by omega⟩

theorem app_inv {s : St} (j : Job) (hi : LInv s) (hok : JobOK j) (hl : live j = true) :
    LInv { s with jobs := s.jobs ++ [j], jobCount := s.jobCount + 1 } := by
  simp only [LInv, List.forall_mem_append, List.forall_mem_singleton, List.countP_append, List.countP_singleton,
    hl, reduceIte] at hi ⊢
  exact ⟨⟨hi.1, hok⟩, by omega⟩

/-- `JobOK` asks for `cancelled` in places and nowhere forbids it -/
theorem cancel_ok {j : Job} (h : JobOK j) :
    JobOK { j with cancelled := true, cleared0 := j.cleared0 || j.fired == 0 } := by
  obtain ⟨h1, h2, h3, h4, -, h6⟩ := h
  refine ⟨h1, fun hk => ⟨(h2 hk).1, (h2 hk).2.1, fun _ => rfl⟩, fun hk => ⟨(h3 hk).1, (h3 hk).2.1, fun _ => rfl⟩,
    fun hk => ⟨(h4 hk).1, fun _ => rfl⟩, fun _ _ => rfl, fun hc => ⟨?_, rfl⟩⟩
  rcases Bool.or_eq_true_iff.mp hc with hc | hc
  · exact (h6 hc).1
  · simpa using hc

theorem stop_ok {j : Job} (h : JobOK j) (hk : j.kind = .timeout) (hc : j.cancelled = true) :
    JobOK { j with g := .done, inJobs := false } := by
  revert h
  simp [JobOK, hk, hc]

theorem cancelJob_ok {j : Job} (h : JobOK j) : JobOK (cancelJob j) := by
  unfold cancelJob
  split
  · next hk _ => exact stop_ok (cancel_ok h) hk rfl
  · exact cancel_ok h

theorem cancelJob_cancelled (j : Job) : (cancelJob j).cancelled = true := by
  unfold cancelJob
  split <;> rfl

theorem inv_step {s t} (h : Step s t) (hi : LInv s) : LInv t := by
  cases h with
  | setImmediateRefused | clearNoop | setTerminated => exact hi
  | setTimeout | setInterval | setImmediate => exact app_inv _ hi (by simp [JobOK]) rfl
  | expire i j hget hk hg | tick i j hget hk hg => exact upd_inv hi hget (by simp [JobOK, hk, hg]) rfl
  | istop i j hget hk hg hc | runImmediateDead i j hget hk hg hc =>
    exact upd_inv hi hget (by simp [JobOK, hk, hg, hc]) rfl
  | deliverDead i j hget hk hg hc => exact upd_inv hi hget (stop_ok · hk hc) rfl
  | deliverRemove i j hget hk hg => exact upd_inv hi hget (by intro h; simp_all [JobOK]) rfl
  | deliverTick i j hget hk hg =>
    exact upd_inv hi hget (by intro h; cases hc : j.cancelled <;> simp_all [JobOK]) rfl
  | deliverLive i j hget hk hg hc | runImmediateLive i j hget hk hg hc =>
    exact upd_inv hi hget (by intro h; simp_all [JobOK]; omega) (by simp [live, hc])
  | clear i j hget hc => exact upd_inv hi hget cancelJob_ok (by simp [live, hc, cancelJob_cancelled])

theorem reach_inv {s} (h : Reach s) : LInv s := by
  induction h with
  | init => simp [init, LInv]
  | step _ hst ih => exact inv_step hst ih

theorem Reach.jobOK {s} (h : Reach s) {j : Job} (hj : j ∈ s.jobs) : JobOK j := (reach_inv h).1 j hj

theorem count_exact {s} (h : Reach s) : s.jobCount = ((s.jobs.countP fun j => !j.cancelled : Nat) : Int) :=
  (reach_inv h).2

theorem timeout_fires_at_most_once {s} (h : Reach s) :
    ∀ j ∈ s.jobs, j.kind = .timeout ∨ j.kind = .immediate → j.fired ≤ 1 := by
  intro j hj hk
  exact ((h.jobOK hj).oneshot (by rcases hk with hk | hk <;> simp [hk])).1

theorem cleared_never_fires {s} (h : Reach s) : ∀ j ∈ s.jobs, j.cleared0 = true → j.fired = 0 := by
  intro j hj hc
  exact ((h.jobOK hj).cleared hc).1

theorem registry_matches_goroutines {s} (h : Reach s) : ∀ j ∈ s.jobs,
    (j.kind = .timeout → (j.inJobs = true ↔ (j.g = .armed ∨ j.g = .sending))) ∧
    (j.kind = .interval → (j.inJobs = true ↔ (j.g = .iwait ∨ j.g = .itick ∨ j.g = .iremove))) ∧
    (j.kind = .immediate → j.inJobs = false) := by
  intro j hj
  have := h.jobOK hj
  exact ⟨fun hk => (this.timeout hk).1, fun hk => (this.interval hk).1, fun hk => (this.immediate hk).1⟩

theorem live_job_g {s} (h : Reach s) {j : Job} (hj : j ∈ s.jobs) (hc : j.cancelled = false) :
    (j.kind = .timeout ∧ (j.g = .armed ∨ j.g = .sending)) ∨ (j.kind = .interval ∧ (j.g = .iwait ∨ j.g = .itick)) ∨
    (j.kind = .immediate ∧ j.g = .queued) := by
  have ok := h.jobOK hj
  have hn : j.cancelled ≠ true := by simp [hc]
  -- of the places `JobOK` lists for the kind, the finished ones imply `cancelled`
  cases hk : j.kind
  · exact .inl ⟨rfl, (ok.timeout hk).2.imp_right (·.resolve_right fun hg => hn (ok.timeout_done hk hg))⟩
  · exact .inr (.inl ⟨rfl, (ok.interval hk).2.1.imp_right (·.resolve_right fun hg => hn ((ok.interval hk).2.2 hg))⟩)
  · exact .inr (.inr ⟨rfl, (ok.immediate hk).2.1.resolve_right fun hg => hn ((ok.immediate hk).2.2 hg)⟩)

theorem quiescent_iff {s} (h : Reach s) : s.jobCount = 0 ↔ ∀ j ∈ s.jobs, j.cancelled = true := by
  rw [count_exact h, Int.natCast_eq_zero, List.countP_eq_zero]
  simp

theorem terminate_leaves_nothing {s} (h : Reach s)
    (hc : ∀ j ∈ s.jobs, j.cancelled = true)
    (ht : ∀ j ∈ s.jobs, j.kind = .timeout → j.g = .done)
    (hi : ∀ j ∈ s.jobs, j.kind = .interval → j.g = .idone) :
    (∀ j ∈ s.jobs, j.inJobs = false) ∧ s.jobCount = 0 := by
  refine ⟨fun j hj => Bool.eq_false_iff.mpr fun hb => ?_, (quiescent_iff h).mpr hc⟩
  obtain ⟨r1, r2, r3⟩ := registry_matches_goroutines h j hj
  cases hk : j.kind
  · simpa [ht j hj hk] using (r1 hk).mp hb
  · simpa [hi j hj hk] using (r2 hk).mp hb
  · simp [r3 hk] at hb

theorem getElem?_modify_pres {P : Job → Prop} (f : Job → Job) (hf : ∀ j, P j → P (f j)) (l : List Job) (k i : Nat)
    (j : Job) (h : l[i]? = some j) (hp : P j) : ∃ j', (l.modify k f)[i]? = some j' ∧ P j' := by
  rw [List.getElem?_modify, h]
  refine ⟨_, rfl, ?_⟩
  split
  · exact hf j hp
  · exact hp

theorem getElem?_append_pres (l : List Job) (x : Job) (i : Nat) (j : Job) (h : l[i]? = some j) :
    (l ++ [x])[i]? = some j :=
  (List.getElem?_append_left (List.getElem?_eq_some_iff.mp h).1).trans h

/-- what any step can do to one job -/
def JobNext (j j' : Job) : Prop :=
  j'.kind = j.kind ∧ (j.cleared0 = true → j'.cleared0 = true) ∧
  (j'.fired = j.fired ∨ (j'.fired = j.fired + 1 ∧ j.cancelled = false))

theorem JobNext.refl {j : Job} : JobNext j j := ⟨rfl, id, .inl rfl⟩

theorem upd_get {s : St} {k i : Nat} {j : Job} (f : Job → Job) (hj : s.jobs[i]? = some j) :
    (s.upd k f).jobs[i]? = some (if k = i then f j else j) := by
  simp only [St.upd, List.getElem?_modify, hj]
  rfl

theorem upd_at {s : St} {k i : Nat} {j0 j : Job} {P : Job → Prop} (f : Job → Job) (h0 : s.jobs[k]? = some j0)
    (hs : s.jobs[i]? = some j) (hne : k ≠ i → P j) (heq : k = i → j0 = j → P (f j)) :
    ∃ j', (s.upd k f).jobs[i]? = some j' ∧ P j' := by
  refine ⟨_, upd_get f hs, ?_⟩
  split
  · next hki => exact heq hki (Option.some.inj ((hki ▸ h0).symm.trans hs))
  · next hki => exact hne hki

theorem upd_job {s : St} {k i : Nat} {j0 j : Job} {f : Job → Job} (h0 : s.jobs[k]? = some j0)
    (hs : s.jobs[i]? = some j) (hf : JobNext j0 (f j0)) : ∃ j', (s.upd k f).jobs[i]? = some j' ∧ JobNext j j' :=
  upd_at f h0 hs (fun _ => .refl) fun _ e => e ▸ hf

theorem step_job {s t} (h : Step s t) {i : Nat} {j : Job} (hs : s.jobs[i]? = some j) :
    ∃ j', t.jobs[i]? = some j' ∧ JobNext j j' := by
  cases h
  case setTimeout | setInterval | setImmediate => exact ⟨j, getElem?_append_pres _ _ _ _ hs, .refl⟩
  case setImmediateRefused | clearNoop | setTerminated => exact ⟨j, hs, .refl⟩
  case deliverLive h0 _ _ hc | runImmediateLive h0 _ _ hc => exact upd_job h0 hs ⟨rfl, id, .inr ⟨rfl, hc⟩⟩
  case deliverTick j0 h0 _ _ =>
    refine upd_job h0 hs ⟨rfl, id, ?_⟩
    cases hc : j0.cancelled <;> simp
  case clear j0 h0 _ =>
    refine upd_job h0 hs ?_
    unfold cancelJob
    split <;> exact ⟨rfl, fun h => by simp [h], .inl rfl⟩
  case expire h0 _ _ | deliverDead h0 _ _ _ | tick h0 _ _ | istop h0 _ _ _ | deliverRemove h0 _ _
      | runImmediateDead h0 _ _ _ =>
    exact upd_job h0 hs ⟨rfl, id, .inl rfl⟩

inductive Steps : St → St → Prop where
  | refl (s : St) : Steps s s
  | tail {s t u} : Steps s t → Step t u → Steps s u

theorem Steps.reach {s t} (hs : Reach s) (h : Steps s t) : Reach t := by
  induction h with
  | refl => exact hs
  | tail _ hst ih => exact .step ih hst

theorem steps_job {s t} (h : Steps s t) {i : Nat} {j : Job} (hs : s.jobs[i]? = some j) :
    ∃ j', t.jobs[i]? = some j' ∧ j'.kind = j.kind ∧ j.fired ≤ j'.fired ∧ (j.cleared0 = true → j'.cleared0 = true) := by
  induction h with
  | refl => exact ⟨j, hs, rfl, Nat.le_refl _, id⟩
  | tail _ hst ih =>
    obtain ⟨j1, h1, k1, f1, c1⟩ := ih
    obtain ⟨j2, h2, k2, c2, f2⟩ := step_job hst h1
    exact ⟨j2, h2, k2.trans k1, by omega, c2 ∘ c1⟩

theorem cleared_never_fires_later {s t} (hr : Reach s) (h : Steps s t) {i : Nat} {j : Job}
    (hs : s.jobs[i]? = some j) (hc : j.cleared0 = true) :
    ∃ j', t.jobs[i]? = some j' ∧ j'.cleared0 = true ∧ j'.fired = 0 := by
  obtain ⟨j', h1, -, -, h2⟩ := steps_job h hs
  exact ⟨j', h1, h2 hc, cleared_never_fires (Steps.reach hr h) j' (List.mem_of_getElem? h1) (h2 hc)⟩

theorem fire_requires_live {s t} (h : Step s t) {i : Nat} {j j' : Job} (hs : s.jobs[i]? = some j)
    (ht : t.jobs[i]? = some j') (hf : j.fired < j'.fired) : j.cancelled = false := by
  obtain ⟨j1, h1, -, -, h2 | h2⟩ := step_job h hs <;> cases h1.symm.trans ht
  · omega
  · exact h2.2

inductive Lbl where
  | setTimeout | setInterval | setImmediate | setImmediateRefused
  | expire (i : Nat) | deliverLive (i : Nat) | deliverDead (i : Nat)
  | clear (i : Nat) | clearNoop (i : Nat)
  | tick (i : Nat) | deliverTick (i : Nat) | istop (i : Nat) | deliverRemove (i : Nat)
  | runImmediateLive (i : Nat) | runImmediateDead (i : Nat)
  | setTerminated (b : Bool)
  deriving Repr, DecidableEq

/-- the executable form of `Step`, which the driver runs against recorded traces of the real loop (`stepL_sound`) -/
def stepL (s : St) : Lbl → Option St
  | .setTimeout =>
    some { s with jobs := s.jobs ++ [⟨.timeout, false, true, .armed, 0, false⟩], jobCount := s.jobCount + 1 }
  | .setInterval =>
    some { s with jobs := s.jobs ++ [⟨.interval, false, true, .iwait, 0, false⟩], jobCount := s.jobCount + 1 }
  | .setImmediate =>
    if s.terminated = false then
      some { s with jobs := s.jobs ++ [⟨.immediate, false, false, .queued, 0, false⟩], jobCount := s.jobCount + 1 }
    else none
  | .setImmediateRefused => if s.terminated = true then some s else none
  | .expire i =>
    match s.jobs[i]? with
    | some j => if j.kind = .timeout ∧ j.g = .armed then some (s.upd i fun j => { j with g := .sending }) else none
    | none => none
  | .deliverLive i =>
    match s.jobs[i]? with
    | some j =>
      if j.kind = .timeout ∧ j.g = .sending ∧ j.cancelled = false then
        some { (s.upd i fun j => { j with g := .done, inJobs := false, cancelled := true, fired := j.fired + 1 })
               with jobCount := s.jobCount - 1 }
      else none
    | none => none
  | .deliverDead i =>
    match s.jobs[i]? with
    | some j =>
      if j.kind = .timeout ∧ j.g = .sending ∧ j.cancelled = true then
        some (s.upd i fun j => { j with g := .done, inJobs := false })
      else none
    | none => none
  | .clear i =>
    match s.jobs[i]? with
    | some j => if j.cancelled = false then some { (s.upd i cancelJob) with jobCount := s.jobCount - 1 } else none
    | none => none
  | .clearNoop i =>
    match s.jobs[i]? with
    | some j => if j.cancelled = true then some s else none
    | none => none
  | .tick i =>
    match s.jobs[i]? with
    | some j => if j.kind = .interval ∧ j.g = .iwait then some (s.upd i fun j => { j with g := .itick }) else none
    | none => none
  | .deliverTick i =>
    match s.jobs[i]? with
    | some j =>
      if j.kind = .interval ∧ j.g = .itick then
        some (s.upd i fun j => { j with g := .iwait, fired := if j.cancelled then j.fired else j.fired + 1 })
      else none
    | none => none
  | .istop i =>
    match s.jobs[i]? with
    | some j =>
      if j.kind = .interval ∧ j.g = .iwait ∧ j.cancelled = true then some (s.upd i fun j => { j with g := .iremove })
      else none
    | none => none
  | .deliverRemove i =>
    match s.jobs[i]? with
    | some j =>
      if j.kind = .interval ∧ j.g = .iremove then some (s.upd i fun j => { j with g := .idone, inJobs := false })
      else none
    | none => none
  | .runImmediateLive i =>
    match s.jobs[i]? with
    | some j =>
      if j.kind = .immediate ∧ j.g = .queued ∧ j.cancelled = false then
        some { (s.upd i fun j => { j with g := .ran, cancelled := true, fired := j.fired + 1 })
               with jobCount := s.jobCount - 1 }
      else none
    | none => none
  | .runImmediateDead i =>
    match s.jobs[i]? with
    | some j =>
      if j.kind = .immediate ∧ j.g = .queued ∧ j.cancelled = true then some (s.upd i fun j => { j with g := .ran })
      else none
    | none => none
  | .setTerminated b => some { s with terminated := b }

theorem live_job_has_step {s} (h : Reach s) {i : Nat} {j : Job} (hj : s.jobs[i]? = some j) (hc : j.cancelled = false) :
    ∃ l, (l = .expire i ∨ l = .deliverLive i ∨ l = .runImmediateLive i ∨ l = .tick i ∨ l = .deliverTick i) ∧
      (stepL s l).isSome = true ∧ (l = .runImmediateLive i → j.kind = .immediate) := by
  rcases live_job_g h (List.mem_of_getElem? hj) hc with ⟨hk, hg | hg⟩ | ⟨hk, hg | hg⟩ | ⟨hk, hg⟩
  · exact ⟨.expire i, by simp [stepL, hj, hk, hg]⟩
  · exact ⟨.deliverLive i, by simp [stepL, hj, hk, hg, hc]⟩
  · exact ⟨.tick i, by simp [stepL, hj, hk, hg]⟩
  · exact ⟨.deliverTick i, by simp [stepL, hj, hk, hg]⟩
  · exact ⟨.runImmediateLive i, by simp [stepL, hj, hk, hg, hc]⟩

/-- for the labels of `stepL` that act on one job: applies to `h : stepL s (.expire i) = some t` as it stands
    (unification unfolds `stepL`, cheaper than `simp [stepL]` first) -/
theorem stepL_eq_some {p : Job → Prop} [DecidablePred p] {r : Job → St} {o : Option Job} {t : St}
    (h : (match o with | some j => if p j then some (r j) else none | none => none) = some t) :
    ∃ j, o = some j ∧ p j ∧ r j = t := by
  split at h
  · next j =>
    obtain ⟨hp, hr⟩ := Option.ite_none_right_eq_some.mp h
    exact ⟨j, rfl, hp, Option.some.inj hr⟩
  · cases h

theorem stepL_sound (s t : St) (l : Lbl) (h : stepL s l = some t) : Step s t := by
  cases l
  case setTimeout => cases h; exact .setTimeout s
  case setInterval => cases h; exact .setInterval s
  case setImmediate =>
    obtain ⟨h1, h2⟩ := Option.ite_none_right_eq_some.mp h
    cases h2; exact .setImmediate s h1
  case setImmediateRefused =>
    obtain ⟨h1, h2⟩ := Option.ite_none_right_eq_some.mp h
    cases h2; exact .setImmediateRefused s h1
  case setTerminated b => cases h; exact .setTerminated s b
  all_goals obtain ⟨j, hj, hc, rfl⟩ := stepL_eq_some h
  case expire => exact .expire s _ _ hj hc.1 hc.2
  case deliverLive => exact .deliverLive s _ _ hj hc.1 hc.2.1 hc.2.2
  case deliverDead => exact .deliverDead s _ _ hj hc.1 hc.2.1 hc.2.2
  case clear => exact .clear s _ _ hj hc
  case clearNoop => exact .clearNoop s _ _ hj hc
  case tick => exact .tick s _ _ hj hc.1 hc.2
  case deliverTick => exact .deliverTick s _ _ hj hc.1 hc.2
  case istop => exact .istop s _ _ hj hc.1 hc.2.1 hc.2.2
  case deliverRemove => exact .deliverRemove s _ _ hj hc.1 hc.2
  case runImmediateLive => exact .runImmediateLive s _ _ hj hc.1 hc.2.1 hc.2.2
  case runImmediateDead => exact .runImmediateDead s _ _ hj hc.1 hc.2.1 hc.2.2

theorem stepL_terminated {s t : St} {l : Lbl} (h : stepL s l = some t) :
    t.terminated = (match l with | .setTerminated b => b | _ => s.terminated) := by
  cases l
  case setTimeout | setInterval | setTerminated =>
    cases h
    rfl
  case setImmediate | setImmediateRefused =>
    cases (Option.ite_none_right_eq_some.mp h).2
    rfl
  all_goals
    obtain ⟨j, -, -, rfl⟩ := stepL_eq_some h
    rfl

def runLabels (s : St) : List Lbl → Option St
  | [] => some s
  | l :: ls => (stepL s l).bind fun t => runLabels t ls

theorem runLabels_cons {s t : St} {l : Lbl} {ls : List Lbl} :
    runLabels s (l :: ls) = some t ↔ ∃ u, stepL s l = some u ∧ runLabels u ls = some t :=
  Option.bind_eq_some_iff

theorem runLabels_steps {r s t : St} {ls : List Lbl} (hr : Steps r s) (h : runLabels s ls = some t) : Steps r t := by
  induction ls generalizing s with
  | nil => cases h; exact hr
  | cons l ls ih =>
    obtain ⟨u, hq, h⟩ := runLabels_cons.mp h
    exact ih (.tail hr (stepL_sound s u l hq)) h

theorem runLabels_reach (s t : St) (ls : List Lbl) (hs : Reach s) (h : runLabels s ls = some t) : Reach t :=
  (runLabels_steps (.refl s) h).reach hs

/-- non-vacuity: a timeout that fires and an interval cleared before its first tick, both to the end: the counter is
    back to 0, the registry is empty, the timeout fired once and the interval never -/
example :
    (runLabels init [.setTimeout, .setInterval, .clear 1, .expire 0, .deliverLive 0, .istop 1, .deliverRemove 1]).map
      (fun s => (s.jobCount, s.jobs.map (fun j => (j.inJobs, j.fired, j.cleared0))))
    = some (0, [(false, 1, false), (false, 0, true)]) := by decide +kernel

/-- non-vacuity of the guards: a cancelled timeout cannot be delivered live, a job cannot be cleared twice -/
example : runLabels init [.setTimeout, .expire 0, .clear 0, .deliverLive 0] = none := by decide +kernel
example : runLabels init [.setTimeout, .clear 0, .clear 0] = none := by decide +kernel

end GN.EventLoop.Ledger
