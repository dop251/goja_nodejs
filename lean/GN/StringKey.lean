/-!
# Tables keyed by strings, for evaluation in the kernel

The kernel decides `s == t` on `String`s by UTF-8-encoding both literals and running `DecidableEq (List UInt8)`, at
a cost that grows with the length of the keys, and a lookup in a table makes dozens of comparisons; `s.toList` decodes
UTF-8 by well-founded recursion, an order of magnitude dearer again.  Numbers are compared in one step and the kernel
remembers the value of a closed term, so the sweeps over generated tables look names up by an injective numeric
`code`, computed once per literal.
-/

namespace GN

/-- bytes read as digits 1..256 in base 257 -/
def codeOf : List UInt8 → Nat
  | [] => 0
  | b :: bs => b.toNat + 1 + 257 * codeOf bs

theorem codeOf_inj : ∀ a b : List UInt8, codeOf a = codeOf b → a = b
  | [], [], _ => rfl
  | [], _ :: _, h => by simp only [codeOf] at h; omega
  | _ :: _, [], h => by simp only [codeOf] at h; omega
  | x :: a, y :: b, h => by
    simp only [codeOf] at h
    have hx := x.toNat_lt; have hy := y.toNat_lt
    rw [codeOf_inj a b (by omega), UInt8.toNat_inj.mp (by omega : x.toNat = y.toNat)]

def code (s : String) : Nat := codeOf s.toByteArray.data.toList

theorem beq_eq_code (s t : String) : (s == t) = (code s == code t) := by
  rw [Bool.eq_iff_iff, beq_iff_eq, beq_iff_eq]
  refine ⟨congrArg code, fun h => ?_⟩
  rw [← String.toByteArray_inj]
  exact ByteArray.ext (Array.toList_inj.mp (codeOf_inj _ _ h))

def lookupCode {α} (key : α → String) (t : List α) (k : String) : Option α :=
  t.find? fun e => code (key e) == code k

theorem find?_key_eq {α} (key : α → String) (t : List α) (k : String) :
    t.find? (fun e => key e == k) = lookupCode key t k := by
  simp only [lookupCode, beq_eq_code]

/-- The characters of an ASCII string, read off its bytes; `toList_eq_charsOf` checks the guess by encoding it
again, which is cheaper for the kernel than `String.toList`. -/
def charsOf (s : String) : List Char := s.toByteArray.data.toList.map fun b => Char.ofNat b.toNat

theorem toList_eq_charsOf {s : String} (h : code (String.ofList (charsOf s)) = code s) : s.toList = charsOf s := by
  have := beq_iff_eq.mp ((beq_eq_code _ _).trans (beq_iff_eq.mpr h))
  rw [← String.toList_ofList (l := charsOf s), this]

/-- One pass over `cs`: each `c` discharges the entries at the head of `es` that carry its key.  It succeeds only for
tables in the same order, with about `|es| + |cs|` comparisons. -/
def coveredBy {α β} : List (String × α) → List (String × β) → Bool
  | es, [] => es.isEmpty
  | es, c :: cs => coveredBy (es.dropWhile (code c.1 == code ·.1)) cs

theorem mem_dropWhile_of_not {α} {p : α → Bool} {e : α} (hp : p e = false) :
    ∀ {es : List α}, e ∈ es → e ∈ es.dropWhile p
  | x :: xs, he => by
    rw [List.dropWhile_cons]
    split
    · next hx =>
      rcases List.mem_cons.mp he with rfl | he'
      · rw [hp] at hx; cases hx
      · exact mem_dropWhile_of_not hp he'
    · exact he

theorem find?_of_coveredBy {α β} : ∀ (cs : List (String × β)) (es : List (String × α)),
    coveredBy es cs = true → ∀ e ∈ es, (cs.find? (fun c => c.1 == e.1)).isSome = true
  | [], es, h, e, he => by cases es <;> simp_all [coveredBy]
  | c :: cs, es, h, e, he => by
    rw [List.find?_cons]
    cases hc : c.1 == e.1 with
    | true => rfl
    | false =>
      exact find?_of_coveredBy cs _ h e (mem_dropWhile_of_not (beq_eq_code _ _ ▸ hc) he)

end GN
